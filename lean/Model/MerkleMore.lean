import Model.Merkle
/-! More of the Merkle library (DESIGN.md §6.1): the subtree side of torchwood (`subtree.go`:
`ValidSubtree`, `SubtreeHash`, `runSubtreeProof`, `CheckSubtree`), the inclusion-proof runner of
tlog (`runRecordProof`, `CheckRecord`), the reference provers (`proveTree`, `proveSubtree`,
`proveRecord`: what `tlog.ProveTree`, `torchwood.ProveSubtree`, `tlog.ProveRecord` compute, stated
directly over the leaf list) and the collision-freeness hypotheses. Core only; the theorems are in
`Proofs/Merkle.lean`.

As in `Model/Merkle.lean`, every proof list is taken in REVERSE order (last hash of the Go slice
first) so that the recursion of the runners is structural: the Go code consumes `p[len(p)-1]`. -/
namespace Merkle

variable {H : Type} (node : H → H → H) (empty : H)

/-! ### collision-freeness hypotheses (DESIGN.md §5: explicit hypotheses, never axioms) -/

/-- What "SHA-256 is collision free" means for RFC 6962 trees whose leaves satisfy `isLeaf`
(for CT: `isLeaf x := ∃ data, x = SHA256(0x00 ‖ data)`): interior hashing is injective, and the
three kinds of tree hash (the empty tree, a leaf, an interior node) are never confused. Only
`node_inj` is needed to compare trees of the *same* size (`mth_inj`); the separation clauses are
what it takes for trees of different shapes (`mth_inj_of_collisionFree`). -/
structure CollisionFree (isLeaf : H → Prop) : Prop where
  node_inj : NodeInj node
  leaf_ne_node : ∀ x a b, isLeaf x → x ≠ node a b
  empty_ne_node : ∀ a b, empty ≠ node a b
  leaf_ne_empty : ∀ x, isLeaf x → x ≠ empty

/-! ### torchwood.ValidSubtree -/

/-- `maxN = 1 << 62` -/
def maxN : Nat := 2 ^ 62

/-- `bits.Len64(x)` for x < 2^64: the number of bits needed to write x -/
def bitsLen (x : Nat) : Nat := if x = 0 then 0 else x.log2 + 1

/-- `bitCeil(n) = 1 << bits.Len64(uint64(n-1))`, for 1 ≤ n ≤ 2^62 -/
def bitCeil (n : Nat) : Nat := 2 ^ bitsLen (n - 1)

/-- `torchwood.ValidSubtree(start, end)` for non-negative arguments (the handler has already
refused negative ones; the int64 subtraction cannot overflow for 0 ≤ start, end < 2^63). -/
def validSubtree (s e : Nat) : Bool :=
  if e ≤ s ∨ e - s > maxN then false
  else s &&& (bitCeil (e - s) - 1) == 0

/-- `torchwood.SubtreeHash(start, end, r)` where `r` serves the tree over the leaf list `B`:
tlog's `subTreeHash(lo, hi)` is the RFC 6962 hash of the leaves `[lo, hi)`. -/
def subtreeHash (B : List H) (s e : Nat) : H := mth node empty (rng B s e)

/-! ### torchwood.runSubtreeProof / CheckSubtree -/

/-- `runSubtreeProof(p, lo, hi, start, end, b, sh)`, proof reversed. `none` is `errProofFailed`
(or one of the "bad math" panics, which `checkSubtree`'s guards make unreachable: the arithmetic is
`straddle_start` / `align_right` in `Proofs/Merkle.lean`, used by `checkSubtree_complete`). The pair is (implied subtree hash, implied hash
of the node with leaves `[lo, hi)`). -/
def runSubtreeProof : List H → (lo hi s e : Nat) → (b : Bool) → (sh : H) → Option (H × H)
  | [], lo, hi, s, e, b, sh =>
    if lo = s ∧ hi = e ∧ b = true then some (sh, sh) else none
  | x :: rest, lo, hi, s, e, b, sh =>
    if ¬ (lo ≤ s ∧ s < e ∧ e ≤ hi) then none            -- panic("bad math")
    else if lo = s ∧ hi = e then
      if b then none else (if rest = [] then some (x, x) else none)
    else
      let k := split (hi - lo)
      if e ≤ lo + k then                                  -- subtree in the left child
        match runSubtreeProof rest lo (lo + k) s e b sh with
        | some (sh2, nh) => some (sh2, node nh x)
        | none => none
      else if lo + k ≤ s then                             -- subtree in the right child
        match runSubtreeProof rest (lo + k) hi s e b sh with
        | some (sh2, nh) => some (sh2, node x nh)
        | none => none
      else if s ≠ lo then none                            -- panic("bad math")
      else                                                -- subtree straddles the split
        match runSubtreeProof rest (lo + k) hi (lo + k) e false sh with
        | some (sh2, nh) => some (node x sh2, node x nh)
        | none => none

/-- `torchwood.CheckSubtree(p, t, th, start, end, sh)` (proof reversed) -/
def checkSubtree [DecidableEq H] (p : List H) (t : Nat) (th : H) (s e : Nat) (sh : H) : Bool :=
  if t > maxN ∨ e > t ∨ validSubtree s e = false then false else
  match runSubtreeProof node p 0 t s e true sh with
  | some (sh2, th2) => decide (sh2 = sh ∧ th2 = th)
  | none => false

/-! ### tlog.runRecordProof / CheckRecord -/

/-- `runRecordProof(p, lo, hi, n, leafHash)`, proof reversed -/
def runRecordProof : List H → (lo hi n : Nat) → (leaf : H) → Option H
  | [], lo, hi, _, leaf => if lo + 1 = hi then some leaf else none
  | x :: rest, lo, hi, n, leaf =>
    if ¬ (lo ≤ n ∧ n < hi) then none                     -- panic("bad math")
    else if lo + 1 = hi then none
    else
      let k := split (hi - lo)
      if n < lo + k then
        match runRecordProof rest lo (lo + k) n leaf with
        | some th => some (node th x)
        | none => none
      else
        match runRecordProof rest (lo + k) hi n leaf with
        | some th => some (node x th)
        | none => none

/-- `tlog.CheckRecord(p, t, th, n, h)` (proof reversed) -/
def checkRecord [DecidableEq H] (p : List H) (t : Nat) (th : H) (n : Nat) (h : H) : Bool :=
  if n ≥ t then false else
  match runRecordProof node p 0 t n h with
  | some th2 => decide (th2 = th)
  | none => false

/-! ### reference provers over a leaf list (what the Go provers compute; proofs in REVERSE order)

Fuel is the height budget; `hi - lo` (at most the list length) always suffices. -/

/-- `tlog.treeProof(lo, hi, n)`: consistency proof that `[lo,hi)` extends `[lo,n)`, reversed -/
def treeProofAux (B : List H) : Nat → (lo hi n : Nat) → List H
  | 0, _, _, _ => []
  | fuel + 1, lo, hi, n =>
    if n = hi then (if lo = 0 then [] else [mth node empty (rng B lo hi)])
    else
      let k := split (hi - lo)
      if n ≤ lo + k then mth node empty (rng B (lo + k) hi) :: treeProofAux B fuel lo (lo + k) n
      else mth node empty (rng B lo (lo + k)) :: treeProofAux B fuel (lo + k) hi n

/-- `tlog.ProveTree(t, n, r)` over the leaves `B.take t`, reversed -/
def proveTree (B : List H) (t n : Nat) : List H := treeProofAux node empty B (t + 1) 0 t n

/-- `torchwood.subtreeProof(lo, hi, start, end, b)`, reversed -/
def subtreeProofAux (B : List H) : Nat → (lo hi s e : Nat) → Bool → List H
  | 0, _, _, _, _, _ => []
  | fuel + 1, lo, hi, s, e, b =>
    if lo = s ∧ hi = e then (if b then [] else [mth node empty (rng B lo hi)])
    else
      let k := split (hi - lo)
      if e ≤ lo + k then mth node empty (rng B (lo + k) hi) :: subtreeProofAux B fuel lo (lo + k) s e b
      else if lo + k ≤ s then mth node empty (rng B lo (lo + k)) :: subtreeProofAux B fuel (lo + k) hi s e b
      else mth node empty (rng B lo (lo + k)) :: subtreeProofAux B fuel (lo + k) hi (lo + k) e false

/-- `torchwood.ProveSubtree(t, start, end, r)`, reversed -/
def proveSubtree (B : List H) (t s e : Nat) : List H := subtreeProofAux node empty B (t + 1) 0 t s e true

/-- `tlog.leafProof(lo, hi, n)`, reversed -/
def recordProofAux (B : List H) : Nat → (lo hi n : Nat) → List H
  | 0, _, _, _ => []
  | fuel + 1, lo, hi, n =>
    if lo + 1 = hi then []
    else
      let k := split (hi - lo)
      if n < lo + k then mth node empty (rng B (lo + k) hi) :: recordProofAux B fuel lo (lo + k) n
      else mth node empty (rng B lo (lo + k)) :: recordProofAux B fuel (lo + k) hi n

/-- `tlog.ProveRecord(t, n, r)`, reversed -/
def proveRecord (B : List H) (t n : Nat) : List H := recordProofAux node empty B (t + 1) 0 t n

end Merkle
