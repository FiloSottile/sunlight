import Generated.Facts
import Model.SeqCacheProgram
/-! Tie of the deduplication cache (C07, C02): the statement outlines of `internal/ctlog/cache.go`, regenerated from
the working tree on every run, are the ones the model was written against (see Model/SeqCacheProgram.lean for what
the model takes from them). A change to how rows are written (batching, a different key, a different table), to how
they are read (statement handling, lookup order, the legacy fallback) or to how the file is opened breaks this tie;
the check then searches for a resubmission that is answered differently. -/
namespace TieCache

theorem cache_init : Generated.cache_initCache = SeqCache.initCache := rfl
theorem cache_legacy_probe : Generated.cache_cacheLegacy = SeqCache.cacheLegacy := rfl
theorem cache_get : Generated.cache_cacheGet = SeqCache.cacheGet := rfl
theorem cache_put : Generated.cache_cachePut = SeqCache.cachePut := rfl

end TieCache
