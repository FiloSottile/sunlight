import Generated.Facts
import Model.Skylight
/-! C20 tie: the conditions of the health endpoint in the current `cmd/skylight/skylight.go` are the ones
`Skylight.Health` enumerates, in the same order. The error texts (one per condition, in source order)
are compared with the model's own enumeration (`LogCond.common ++ sunset ++ active`, `WitCond`,
`WLogCond.applicable true`) mapped through `msg`; the effect skeletons (calls and guards of `checkLog`,
`loadVerifiers`, `parseVerifiers`, `hashes`, `check`, and what the handler does with each result:
which branch sets the status, which only writes "(ignored)" / "read-only") are compared literally. -/
namespace TieC20
open Skylight.Health

/-- `checkLog` reports its conditions in the order of the model's enumeration -/
theorem checkLog_errors :
    Generated.c20_checkLog_errors = (LogCond.common ++ LogCond.sunset ++ LogCond.active).map LogCond.msg := rfl

theorem parseVerifiers_errors : Generated.c20_parseVerifiers_errors =
    [WitCond.infoRead, .infoParses, .keysNonEmpty, .keysValid].map WitCond.msg ∧
    Generated.c20_parseVerifiers_errors = [WitCond.pInfoRead, .pInfoParses, .pKeysNonEmpty, .pKeysValid].map WitCond.msg := ⟨rfl, rfl⟩
theorem hashes_errors : Generated.c20_hashes_errors = [WitCond.msg .enumOk] := rfl
theorem check_errors : Generated.c20_check_errors = (WLogCond.applicable true).map WLogCond.msg := rfl
/-- a witness directory tests the prefix of the mirror's list that ends before `!wh.mirror → return` -/
theorem check_prefix : WLogCond.applicable false = (WLogCond.applicable true).take 4 := by decide

/-- calls and guards of `checkLog`: the two time windows are 7 days + 3 s and 5 s -/
theorem checkLog_skel : Generated.c20_checkLog_skel = [
  "call fs.ReadFile(root.FS()) onerr=fail guard=[]",
  "call json.Unmarshal(logJSON) onerr=fail guard=[]",
  "call x509.ParsePKIXPublicKey(log.PublicKeyDER) onerr=fail guard=[]",
  "call sunlight.NewRFC6962Verifier(log.Name) onerr=fail guard=[]",
  "call fs.ReadFile(root.FS()) onerr=fail guard=[]",
  "call note.Open(signedCheckpoint) onerr=fail guard=[]",
  "call torchwood.ParseCheckpoint(n.Text) onerr=fail guard=[]",
  "guard [checkpoint.Origin != log.Name] -> fail",
  "call sunlight.RFC6962SignatureTimestamp(n.Sigs[0]) onerr=fail guard=[]",
  "call time.Parse(time.RFC3339) onerr=fail guard=[]",
  "guard [time.Since(notAfterLimit) > 7*24*time.Hour+3*time.Second] -> fail",
  "guard [log.FinalTree.RootHash == nil] -> fail",
  "call bytes.Equal(log.FinalTree.RootHash) onerr=cond guard=[time.Since(notAfterLimit) > 7*24*time.Hour+3*time.Second]",
  "guard [!bytes.Equal(log.FinalTree.RootHash, checkpoint.Hash[:])] -> fail",
  "guard [log.FinalTree.Size != checkpoint.N] -> fail",
  "guard [log.FinalTree.Timestamp != t] -> fail",
  "guard [time.Since(ct) > 5*time.Second] -> fail"] := rfl

theorem loadVerifiers_skel : Generated.c20_loadVerifiers_skel = [
  "assign name = \"witness.v0.json\" guard=[]",
  "guard [wh.mirror] -> continue",
  "assign name = \"mirror.v0.json\" guard=[wh.mirror]",
  "call parseVerifiers(wh.root) onerr=fail guard=[]",
  "assign wh.verifier = v guard=[]",
  "guard [wh.mirror] -> fail",
  "call parseVerifiers(wh.pendingRoot) onerr=fail guard=[wh.mirror]",
  "assign wh.witnessVerifier = wv guard=[wh.mirror]"] := rfl

theorem parseVerifiers_skel : Generated.c20_parseVerifiers_skel = [
  "call fs.ReadFile(root.FS()) onerr=fail guard=[]",
  "call json.Unmarshal(j) onerr=fail guard=[]",
  "guard [len(info.VerifierKeys) == 0] -> fail",
  "call parseVerifier(vkey) onerr=fail guard=[ range(info.VerifierKeys)]",
  "call note.VerifierList(verifiers) onerr=returned guard=[]"] := rfl

theorem hashes_skel : Generated.c20_hashes_skel = [
  "call fs.ReadDir(wh.root.FS()) onerr=fail guard=[]",
  "call isOriginHash(e.Name()) onerr=cond guard=[ range(entries)]",
  "guard [e.IsDir() && isOriginHash(e.Name())] -> continue"] ∧
  Generated.c20_isOriginHash_returns = ["err == nil && len(b) == sha256.Size && strings.ToLower(name) == name"] := ⟨rfl, rfl⟩

theorem check_skel : Generated.c20_check_skel = [
  "call fs.ReadFile(wh.root.FS()) onerr=fail guard=[]",
  "call note.Open(signedCheckpoint) onerr=fail guard=[]",
  "call torchwood.ParseCheckpoint(n.Text) onerr=fail guard=[]",
  "call witness.OriginHash(origin) onerr= guard=[]",
  "guard [h != hash] -> fail",
  "guard [!wh.mirror] -> return-nil",
  "call fs.Sub(wh.root.FS()) onerr=fail guard=[]",
  "call torchwood.NewTileFS(sub) onerr=fail guard=[]",
  "call torchwood.TileHashReaderWithContext(checkpoint.Tree) onerr=unchecked guard=[]",
  "call torchwood.RightEdge(checkpoint.N) onerr= guard=[]",
  "guard [len(edge) > 0] -> fail",
  "call hr.ReadHashes(edge) onerr=fail guard=[len(edge) > 0]",
  "call fs.ReadFile(wh.pendingRoot.FS()) onerr=fail guard=[]",
  "call note.Open(signedPending) onerr=fail guard=[]",
  "call torchwood.ParseCheckpoint(pn.Text) onerr=fail guard=[]",
  "guard [pending.Origin != origin] -> fail",
  "guard [checkpoint.N > pending.N] -> fail"] := rfl

/-- the handler: `errLogSunset` → "read-only" (no status change, whatever Staging says); a staging
entry → "(ignored)"; otherwise status 500; a witness whose keys do not load or whose directory cannot
be listed is reported once under its kind; each log directory is labelled with the verified origin
when there is one (`Skylight.Health.logLine`, `witLines`, `WLog.label`, `report`) -/
theorem health_skel : Generated.c20_health_skel = [
  "assign status = http.StatusOK guard=[]",
  "call checkLog(root) onerr=continue guard=[ range(roots)]",
  "call errors.Is(err) onerr=cond guard=[ range(roots) <err != nil>]",
  "guard [errors.Is(err, errLogSunset)] -> continue",
  "call fmt.Fprintf(buf) onerr=ignored guard=[ range(roots) <err != nil> && errors.Is(err, errLogSunset)]",
  "guard [log.Staging] -> continue",
  "call fmt.Fprintf(buf) onerr=ignored guard=[ range(roots) <err != nil> !(errors.Is(err, errLogSunset)) && log.Staging]",
  "assign status = http.StatusInternalServerError guard=[ range(roots) <err != nil> !(errors.Is(err, errLogSunset)) !(log.Staging)]",
  "call fmt.Fprintf(buf) onerr=ignored guard=[ range(roots) <err != nil> !(errors.Is(err, errLogSunset)) !(log.Staging)]",
  "call fmt.Fprintf(buf) onerr=ignored guard=[ range(roots) !(err != nil)]",
  "assign kind = \"witness\" guard=[ range(witnessChecks)]",
  "guard [wh.mirror] -> continue",
  "assign kind = \"mirror\" guard=[ range(witnessChecks) && wh.mirror]",
  "call wh.loadVerifiers() onerr=unchecked guard=[ range(witnessChecks)]",
  "call wh.hashes() onerr=unchecked guard=[ range(witnessChecks) <err == nil>]",
  "guard [wh.staging] -> continue",
  "call fmt.Fprintf(buf) onerr=ignored guard=[ range(witnessChecks) <err != nil> && wh.staging]",
  "assign status = http.StatusInternalServerError guard=[ range(witnessChecks) <err != nil> !(wh.staging)]",
  "call fmt.Fprintf(buf) onerr=ignored guard=[ range(witnessChecks) <err != nil> !(wh.staging)]",
  "call wh.check(r.Context()) onerr=unchecked guard=[ range(witnessChecks) range(hashes)]",
  "assign label = kind + \" \" + hash guard=[ range(witnessChecks) range(hashes)]",
  "guard [origin != \"\"] -> continue",
  "assign label = kind + \" \" + origin guard=[ range(witnessChecks) range(hashes) && origin != \"\"]",
  "guard [wh.staging] -> continue",
  "call fmt.Fprintf(buf) onerr=ignored guard=[ range(witnessChecks) range(hashes) <err != nil> && wh.staging]",
  "assign status = http.StatusInternalServerError guard=[ range(witnessChecks) range(hashes) <err != nil> !(wh.staging)]",
  "call fmt.Fprintf(buf) onerr=ignored guard=[ range(witnessChecks) range(hashes) <err != nil> !(wh.staging)]",
  "call fmt.Fprintf(buf) onerr=ignored guard=[ range(witnessChecks) range(hashes) !(err != nil)]",
  "call w.WriteHeader(status) onerr=ignored guard=[]"] := rfl

theorem health_formats : Generated.c20_health_formats = [
  "\"%s: read-only\"", "\"%s: %v (ignored)\"", "\"%s: %v\"", "\"%s: OK\"",
  "\"%s: %v (ignored)\"", "\"%s: %v\"",
  "\"%s: %v (ignored)\"", "\"%s: %v\"", "\"%s: OK\""] ∧
  kindName false = "witness" ∧ kindName true = "mirror" := ⟨rfl, rfl, rfl⟩

/-- one health entry per configured witness, a second one (mirror, verified against the pending
checkpoints of the first) when it has a `mirror` sub-directory; both inherit `Staging` -/
theorem witnessHealth_literals : Generated.c20_witnessHealth_literals = [
  "root: root, staging: wc.Staging",
  "root: mirrorRoot, pendingRoot: root, mirror: true, staging: wc.Staging"] := rfl

end TieC20
