import Generated.Facts
import Model.Witness
/-! C14 tie: the current source of `serveAddCheckpoint`, `processAddCheckpointRequest`,
`updateCheckpoint`, `checkpointLocked` and `openCheckpoint` (as normalised listings regenerated by
`tools/extract/facts_C14.go`) is the listing of the model's program: every guard, in source order,
with the error class it returns, the arguments of `tlog.CheckTree`, `note.Sign`, `Lock.Replace`
and `Backend.Upload`, what happens to `l.checkpoint` on either outcome of the CAS, and the
error-class → status switch. Right-hand sides are rendered from `Witness.programP`,
`Witness.programU` (`Step.render`: the lines each guard of the interpreter `Witness.run` stands for)
and `ErrClass.status`. -/
namespace TieC14
open Witness

theorem processAddCheckpointRequest_listing :
    Generated.c14_processAddCheckpointRequest = listingP := by decide +kernel

theorem updateCheckpoint_listing : Generated.c14_updateCheckpoint = listingU := by decide +kernel

theorem checkpointLocked_listing : Generated.c14_checkpointLocked = listingCheckpointLocked := by rfl

theorem openCheckpoint_listing : Generated.c14_openCheckpoint = listingOpenCheckpoint := by rfl

theorem serveAddCheckpoint_listing : Generated.c14_serveAddCheckpoint = listingServeAdd := by decide +kernel

/-- the error values the switch compares are distinct package-level values (inline `fmtErrorf`
results are fresh and match none of them) -/
theorem errVars : Generated.c14_errVars =
    ["errBadCheckpoint = fmtErrorf(\"invalid checkpoint\")",
     "errBadRequest = fmtErrorf(\"invalid input\")",
     "errExtensions = fmtErrorf(\"invalid checkpoint: extension lines are not supported\")",
     "errInvalidProof = fmtErrorf(\"invalid proof\")",
     "errInvalidSignature = fmtErrorf(\"invalid signature\")",
     "errMissingBody = fmtErrorf(\"missing or truncated request body\")",
     "errNoPendingCheckpoint = fmtErrorf(\"no pending checkpoint for log\")",
     "errNotMirrored = fmtErrorf(\"log is not mirrored\")",
     "errProof = fmtErrorf(\"bad consistency proof\")",
     "errUnknownLog = fmtErrorf(\"unknown log\")"] := rfl

/-- `emptyHash` of the model is `tlog.TreeHash(0, nil)` -/
theorem emptyTreeHash : Generated.c14_emptyTreeHash = ["emptyTreeHash = tlog.TreeHash(0, nil)"] := rfl

/-- the per-log mutex, the lookup tables and the lock key are per origin -/
theorem stateForOrigin_listing : Generated.c14_stateForOrigin =
    ["w.logsMu.RLock()", "defer w.logsMu.RUnlock()", "c, ok := w.logs[origin]", "return c, ok"] := rfl

theorem backendKey_listing : Generated.c14_backendKeyForCheckpoint =
    ["h := sha256.New()", "h.Write(asn1.NullBytes)", "h.Write([]byte(\"witness log\\n\"))",
     "h.Write(config.KeyEd25519.Public().(ed25519.PublicKey))", "h.Write([]byte(origin))",
     "return [32]byte(h.Sum(nil))"] := rfl

/-- `splitSignatures` keeps exactly the signature lines starting with "— name " (`ownLines`) -/
theorem splitSignatures_listing : Generated.c14_splitSignatures =
    ["sigSplit := []byte(\"\\n\\n\")", "split := bytes.LastIndex(note, sigSplit)",
     "if split < 0 => return nil, errors.New(\"invalid note\")", "var sigs []byte",
     "sigPrefix := []byte(\"— \" + name + \" \")",
     "for _, line := range bytes.SplitAfter(note[split+2:], []byte(\"\\n\")) {",
     "  if bytes.HasPrefix(line, sigPrefix) {", "    sigs = append(sigs, line...)", "  }", "}",
     "return sigs, nil"] := rfl

end TieC14
