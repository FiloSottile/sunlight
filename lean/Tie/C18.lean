import Generated.Facts
import Model.Aftersun
/-! C18 tie: the guards of `cmd/partial-aftersun/partial-aftersun.go` in the current source are the ones
`Model/Aftersun.lean` transliterates. The level guard and the two arithmetic expressions are compared with the
*rendering of the expression trees the model evaluates* (`levelGuardExpr`, `tileSizeExpr`, `edgeGuardExpr`), the
string tests with the model's byte-string constants; the effect skeletons (order of listings, parses, guards,
override, removals, and how each error leaves) are compared literally. -/
namespace TieC18
open Aftersun TilePath

/-- a model byte string as a Go string literal -/
def goLit (b : Bytes) : String := "\"" ++ String.ofList (b.map fun c => Char.ofNat c.toNat) ++ "\""

theorem tileHeight : (Generated.c18_tileHeight : Int) = env1 0 "sunlight.TileHeight" ∧
    (Generated.c18_tileHeight : Int) = TilePath.tileHeight := by decide
/-- `t.W == sunlight.TileWidth` is the model's `t.W = 256 = 1 << TileHeight` -/
theorem tileWidth : (Generated.c18_tileWidth : Int) = 256 ∧ (Generated.c18_tileWidth : Int) = shl1 TilePath.tileHeight := by decide

theorem level_guard : Generated.c18_level_guard = [levelGuardExpr.render ++ " -> continue"] := by decide +kernel
theorem tileSize_expr : Generated.c18_tileSize_expr = tileSizeExpr.render := by decide +kernel
theorem edge_guard : Generated.c18_edge_guard = [edgeGuardExpr.render ++ " -> continue"] := by decide +kernel
theorem width_guard : Generated.c18_width_guard = ["t.W==sunlight.TileWidth -> return-error"] := rfl
theorem name_guards : Generated.c18_name_guards =
    ["strings.HasPrefix(entry.Name(),\"x\") -> continue", "!ok -> continue", "!ok -> continue"] := rfl

theorem cleanDir_strings : Generated.c18_cleanDir_strings =
    ["strings.HasPrefix(entry.Name(), " ++ goLit [120] ++ ")",
     "strings.CutSuffix(entry.Name(), " ++ goLit dotP ++ ")",
     "strings.TrimSuffix(name, " ++ goLit dotP ++ ")"] := by decide +kernel
theorem override_strings : Generated.c18_override_strings = ["strings.Cut(name, " ++ goLit dotPSlash ++ ")"] := by decide +kernel

/-- order of effects and guards in `cleanDir`: list the directory; recurse into `x…`; cut `.p`; sibling in
the listing; parse the sibling path; level cut-off *before* the shift; right-edge test; list the `.p` directory; per partial: parse, width
test, `overrideImmutable`, remove; finally remove the directory. Every error returns. -/
theorem cleanDir_skel : Generated.c18_cleanDir_skel = [
  "call ctx.Err() onerr=fail guard=[]",
  "call fs.ReadDir(root.FS()) onerr=fail guard=[]",
  "call strings.HasPrefix(entry.Name()) onerr=cond guard=[ range(entries)]",
  "guard [strings.HasPrefix(entry.Name(), \"x\")] -> fail",
  "call cleanDir(logger) onerr=fail guard=[ range(entries) && strings.HasPrefix(entry.Name(), \"x\")]",
  "call strings.CutSuffix(entry.Name()) onerr=unchecked guard=[ range(entries)]",
  "guard [!ok] -> continue",
  "guard [!ok] -> continue",
  "call parseTilePath(strings.TrimSuffix(name, \".p\")) onerr=fail guard=[ range(entries)]",
  "call strings.TrimSuffix(name) onerr=fail guard=[ range(entries)]",
  "guard [t.L > 6] -> continue",
  "assign tileSize = int64(1) << (sunlight.TileHeight * (max(0, t.L) + 1)) guard=[ range(entries)]",
  "guard [t.N >= size/tileSize] -> continue",
  "call fs.ReadDir(root.FS()) onerr=fail guard=[ range(entries)]",
  "call parseTilePath(name) onerr=fail guard=[ range(entries) range(partials)]",
  "guard [t.W == sunlight.TileWidth] -> fail",
  "call overrideImmutable(root) onerr=fail guard=[ range(entries) range(partials)]",
  "call root.Remove(name) onerr=fail guard=[ range(entries) range(partials)]",
  "call root.Remove(name) onerr=fail guard=[ range(entries)]"] := rfl

/-- `overrideImmutable`: cut at `".p/"`, the rest is a number, the text before it is a non-empty regular file -/
theorem override_skel : Generated.c18_override_skel = [
  "call strings.Cut(name) onerr=unchecked guard=[]",
  "guard [!ok] -> fail",
  "call strconv.Atoi(size) onerr=fail guard=[]",
  "call root.Stat(full) onerr=fail guard=[]",
  "guard [fi.IsDir()] -> fail",
  "guard [fi.Size() == 0] -> fail",
  "call root.Open(name) onerr=fail guard=[]",
  "call immutable.Unset(f) onerr=ignored guard=[]",
  "call f.Close() onerr=returned guard=[]"] := rfl

/-- the size is `checkpoint.N` of the published checkpoint: signature-verified under the key and name of
`log.v3.json` for a log, origin-hash-checked for a mirror directory -/
theorem logSize_skel : Generated.c18_logSize_skel = [
  "call fs.ReadFile(root.FS()) onerr=fail guard=[]",
  "call json.Unmarshal(logJSON) onerr=fail guard=[]",
  "call x509.ParsePKIXPublicKey(log.PublicKeyDER) onerr=fail guard=[]",
  "call sunlight.NewRFC6962Verifier(log.Name) onerr=fail guard=[]",
  "call fs.ReadFile(root.FS()) onerr=fail guard=[]",
  "call note.Open(signedCheckpoint) onerr=fail guard=[]",
  "call torchwood.ParseCheckpoint(n.Text) onerr=fail guard=[]",
  "guard [checkpoint.Origin != log.Name] -> fail"] ∧
  Generated.c18_logSize_returns = List.replicate 8 "0, fmt.Errorf" ++ ["checkpoint.N, nil"] := ⟨rfl, rfl⟩
theorem mirroredLogSize_skel : Generated.c18_mirroredLogSize_skel = [
  "call fs.ReadFile(root.FS()) onerr=fail guard=[]",
  "call bytes.Index(signedCheckpoint) onerr=unchecked guard=[]",
  "guard [sep == -1] -> fail",
  "call torchwood.ParseCheckpoint(string(signedCheckpoint[:sep+1])) onerr=fail guard=[]",
  "call witness.OriginHash(checkpoint.Origin) onerr= guard=[]",
  "guard [exp != originHash] -> fail"] ∧
  Generated.c18_mirroredLogSize_returns = List.replicate 4 "0, fmt.Errorf" ++ ["checkpoint.N, nil"] := ⟨rfl, rfl⟩

/-- logs are walked with `sunlight.ParseTilePath`, mirror directories with `torchwood.ParseTilePath`
(`Aftersun.parserOf`), each with the size its own size function returned -/
theorem main_calls : Generated.c18_main_calls = [
  "logSize(root)",
  "cleanDir(ctx, logger, root, name, size, sunlight.ParseTilePath)",
  "mirroredLogSize(root, entry.Name())",
  "cleanDir(ctx, logger, root, name, size, torchwood.ParseTilePath)"] := rfl

end TieC18
