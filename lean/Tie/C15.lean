import Generated.Facts
import Model.MirrorListing
/-! C15 tie: the current source of the add-entries functions of `internal/witness/witness.go` (as
normalised listings regenerated by `tools/extract/facts_C15.go`) is the listing the model of
`Model/Mirror.lean` was written from (`Model/MirrorListing.lean`): the framing and the status mapping
of `serveAddEntries` including the two mirror-info responses (409 from the metadata and commit
phases, 202 from the package phase), every guard of `processAddEntriesMetadata` in source order with
its error class, the resolution switch and the upload window `excessEntries > 8*256`,
`mirrorConflict` / `mirrorConflictNext` / `verifyTicket` (associated data = mirror name and origin,
re-verification with the witness' ML-DSA verifier, origin check), the package loop (hooks, truncation
classes, `numHashes > 63`), one package (complete tile, record hashes, `SubtreeHash`, `CheckSubtree`
against `pending`, the `NewTiles` upload loop with the entry bundle before the hash tile,
`nextEntry := max`), `completeTileFromBackend`, the commit (guards, `ensureCutTiles` before signing,
`Lock.Replace(l.mirrorCheckpoint, signed)` and what happens to `l.mirrorCheckpoint` on either outcome,
the upload), the `ensureCutTiles` body, `mirrorCheckpointLocked`, the framing readers and the upload
options of tiles. Status names, error values, the window and tile constants on the right-hand sides
are rendered from the model's tables (`EClass.status`, `stConflict`, `stAccepted`, `tileWidth`,
`windowTiles`, `maxProofHashes`).

A listing that mixes long literal lines with a few computed ones is first compared line by line
(`List.cons.injEq`): equal literals are closed as they stand, and the kernel evaluates only the computed
lines. Looking inside a string literal costs the kernel time quadratic in its length. -/
namespace TieC15
open Mirror

theorem serveAddEntries_listing : Generated.c15_serveAddEntries = listing_serveAddEntries := by
  simp only [Generated.c15_serveAddEntries, listing_serveAddEntries, List.cons.injEq, true_and, and_true]
  decide +kernel
theorem httpErrorMirrorInfo_listing : Generated.c15_httpErrorMirrorInfo = listing_httpErrorMirrorInfo := by rfl
theorem processAddEntriesMetadata_listing :
    Generated.c15_processAddEntriesMetadata = listing_processAddEntriesMetadata := by
  simp only [Generated.c15_processAddEntriesMetadata, listing_processAddEntriesMetadata, List.cons.injEq, true_and, and_true]
  decide +kernel
theorem mirrorConflict_listing : Generated.c15_mirrorConflict = listing_mirrorConflict := by rfl
theorem mirrorConflictNext_listing : Generated.c15_mirrorConflictNext = listing_mirrorConflictNext := by rfl
theorem verifyTicket_listing : Generated.c15_verifyTicket = listing_verifyTicket := by rfl
theorem processAddEntriesPackages_listing :
    Generated.c15_processAddEntriesPackages = listing_processAddEntriesPackages := by rfl
theorem processAddEntriesPackage_listing :
    Generated.c15_processAddEntriesPackage = listing_processAddEntriesPackage := by
  simp only [Generated.c15_processAddEntriesPackage, listing_processAddEntriesPackage, List.cons.injEq, true_and, and_true]
  decide +kernel
theorem completeTileFromBackend_listing :
    Generated.c15_completeTileFromBackend = listing_completeTileFromBackend := by
  simp only [Generated.c15_completeTileFromBackend, listing_completeTileFromBackend, List.cons.injEq, true_and, and_true]
  decide +kernel
theorem processAddEntriesCommit_listing :
    Generated.c15_processAddEntriesCommit = listing_processAddEntriesCommit := by
  simp only [Generated.c15_processAddEntriesCommit, listing_processAddEntriesCommit, List.cons.injEq, true_and, and_true]
  decide +kernel
theorem ensureCutTiles_listing : Generated.c15_ensureCutTiles = listing_ensureCutTiles := by
  simp only [Generated.c15_ensureCutTiles, listing_ensureCutTiles, List.cons.injEq, true_and, and_true]
  decide +kernel
theorem mirrorCheckpointLocked_listing :
    Generated.c15_mirrorCheckpointLocked = listing_mirrorCheckpointLocked := by rfl
theorem nextEntryForOrigin_listing : Generated.c15_nextEntryForOrigin = listing_nextEntryForOrigin := by rfl
theorem originIsMirrored_listing : Generated.c15_originIsMirrored = listing_originIsMirrored := by rfl
theorem backendKeyForMirrorCheckpoint_listing :
    Generated.c15_backendKeyForMirrorCheckpoint = listing_backendKeyForMirrorCheckpoint := by rfl
theorem newLogState_listing : Generated.c15_newLogState = listing_newLogState := by rfl
theorem readUint16LengthPrefixed_listing :
    Generated.c15_readUint16LengthPrefixed = listing_readUint16LengthPrefixed := by rfl
theorem readUint64_listing : Generated.c15_readUint64 = listing_readUint64 := by rfl
theorem optsTiles_listing : Generated.c15_optsTiles = listing_optsTiles := by rfl

/-- the model's constants are the code's -/
theorem constants : tileWidth = 256 ∧ window = 2048 ∧ maxProofHashes = 63 ∧ stConflict = 409 ∧ stAccepted = 202 := by decide

end TieC15
