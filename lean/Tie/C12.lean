import Generated.Facts
import Model.ClientV
/-! C12 tie: the checks of `cutEntry`, the `Entries` / `AllEntries` wrappers, `Entry`,
`CheckInclusion` and `Checkpoint` in the current `client.go` (every guard, in source order) are
the ones `Model/ClientV.lean` gives a meaning to; both constructors hand `cutEntry` to torchwood;
and in the pinned torchwood the per-tile loop of `Client.Entries` and `Client.Entry` have the
guards `scanTile` / `clientEntry` model (hash comparison before the yield, leftover check,
`CheckRecord` against the caller's tree head). -/
namespace TieC12
open ClientV

theorem cutentry : Generated.c12_cutentry = expectedCutEntry := rfl
theorem entries : Generated.c12_entries = expectedEntriesWrapper "Entries" := rfl
theorem allentries : Generated.c12_allentries = expectedEntriesWrapper "AllEntries" := rfl
theorem entry : Generated.c12_entry = expectedEntry := rfl
theorem checkinclusion : Generated.c12_checkinclusion = expectedCheckInclusion := rfl
theorem checkpoint : Generated.c12_checkpoint = expectedCheckpoint := rfl
/-- the file:// and the HTTP constructor both install `cutEntry` -/
theorem with_cut_entry : Generated.c12_with_cut_entry = List.replicate 2 "torchwood.WithCutEntry(cutEntry)" := rfl
theorem tile_width : Generated.c12_tile_width = tileWidth := by decide
theorem torchwood_tile_loop : Generated.c12_torchwood_tile_loop = expectedTorchwoodTileLoop := rfl
theorem torchwood_entry : Generated.c12_torchwood_entry = expectedTorchwoodEntry := rfl

end TieC12
