import Generated.Facts
import Model.LocalFS
/-! C13 tie: what `Model/LocalFS.lean` assumes about the source of `internal/durable/path.go`,
`internal/ctlog/local.go` and `internal/immutable/immutable_linux.go` is what the source says now.
Right-hand sides are renderings of the model's own programs (`LocalFS.Source`): the source order of
calls and `defer`s of `WriteFile` and `Mkdir` (from which `execOrder` derives fsync(file) < rename <
fsync(parent) and mkdir < fsync(new) < fsync(parent)), `fsyncAndClose`, `MkdirAll`, the branch
structure of `Upload` with its modes and `Localize` before `Join`, `Fetch`, `Discard`, the loop of
`compareFile`; the ioctl of the inode flag is compared with its text. The buffer expression of `compareFile` is not compared
with a text: it is parsed into the model's vocabulary and *instantiates* the model (`compare_loop`;
`drv localfs` runs the same instance, `Driver.Localfs.currentProgram`); that the instance has a never-empty
buffer is `compare_buf_positive`. -/
namespace TieC13
open LocalFS

theorem writefile_order : Generated.c13_writefile = Source.writeFile := rfl
theorem mkdir_order : Generated.c13_mkdir = Source.mkdir := rfl
theorem fsyncandclose : Generated.c13_fsyncandclose = Source.fsyncAndClose := rfl
theorem mkdirall : Generated.c13_mkdirall = Source.mkdirAll := rfl
theorem upload_branches : Generated.c13_upload = Source.upload := by decide +kernel
theorem fetch_branches : Generated.c13_fetch = Source.fetch := rfl
theorem discard_branches : Generated.c13_discard = Source.discard := rfl
/-- `Upload`, `Fetch` and `Discard` (above) call the helper `localize`, which is `filepath.Localize`
followed by the refusal of the name `"."` — the model's `LocalFS.localize`. -/
theorem localize_helper : Generated.c13_localize = Source.localizeHelper := rfl

/-- The buffer expression is in the model's vocabulary, and `compareFile` is the model's loop with it. -/
theorem compare_loop :
    (BufExpr.parse Generated.c13_compare_buf).map (fun e => Source.compareFile { buf := e }) =
      some Generated.c13_comparefile := by decide +kernel

/-- The buffer of `compareFile` in the current source is never empty (`BufExpr.pos`, hence
`Program.Progress`, hence `C13_immutable` applies to it; it was not before commit 1e3891a: F1). -/
theorem compare_buf_positive :
    (BufExpr.parse Generated.c13_compare_buf).map BufExpr.pos = some true := by decide

theorem immutable_set : Generated.c13_immutable_set = ["setFlags(f, _FS_IMMUTABLE_FL)"] := rfl
theorem immutable_unset : Generated.c13_immutable_unset = ["setFlags(f, 0)"] := rfl
theorem immutable_ioctl : Generated.c13_immutable_setflags =
    ["syscall.Syscall(syscall.SYS_IOCTL, f.Fd(), _FS_IOC_SETFLAGS, uintptr(unsafe.Pointer(&flags)))"] := rfl
theorem immutable_flag : Generated.c13_FS_IMMUTABLE_FL = 16 := by decide

end TieC13
