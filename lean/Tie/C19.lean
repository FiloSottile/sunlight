import Generated.Facts
import Model.Skylight
/-! C19 tie: the routes of `cmd/skylight/skylight.go` and what each handler does to the response are
what `Skylight.Route` models. The header assignments are compared with lists *rendered from the
model's own header values* (`checkpointHdrs`, `jsonHdrs`, `issuerHdrs`, `tileHeaders`): the rows of the
`switch tile.L` are the differences between `tileHeaders` at level −1 / −2 and at the default level.
Patterns, prefix stripping / re-prefixing, the file-server construction over `os.Root` and the
directory-hiding `filesOnlyFS` are compared literally. -/
namespace TieC19
open Skylight.Route TilePath

def setH (k v : String) : String := "set " ++ k ++ "=" ++ v

/-- the assignments every file handler starts with -/
def baseHeaders (h : Hdrs) : List String :=
  [setH "Access-Control-Allow-Origin" "*", setH "Content-Type" h.ctype] ++
  (if h.cache = "" then [] else [setH "Cache-Control" h.cache])

def defaultTile : Hdrs := (tileHeaders ⟨0, 0, 0, 0⟩).2

/-- what a `case` of the switch adds to the default row -/
def switchRow (t : Tile) : List String :=
  let h := (tileHeaders t).2
  (if h.gzip && !defaultTile.gzip then [">" ++ setH "Content-Encoding" "gzip"] else []) ++
  (if h.ctype ≠ defaultTile.ctype then [">" ++ setH "Content-Type" h.ctype] else [])

/-- the patterns registered on the two muxes, in source order -/
theorem routes : Generated.c19_routes = [
  "mux.Handle /metrics",
  "mux.Handle /{$}",
  "logMux.Handle /{$}",
  "logMux.HandleFunc GET /checkpoint",
  "logMux.HandleFunc GET /log.v3.json",
  "logMux.HandleFunc GET /issuer/{issuer}",
  "logMux.HandleFunc GET /tile/{tile...}",
  "mux.HandleFunc patternPrefix + \"/\"",
  "mux.HandleFunc patternPrefix + \"/{origin}/\"",
  "mux.HandleFunc patternPrefix + \"/mirror/{origin}/\"",
  "mux.HandleFunc patternPrefix + \"/witness.v0.json\"",
  "mux.HandleFunc patternPrefix + \"/mirror/mirror.v0.json\"",
  "mux.HandleFunc \"GET \" + logsJSONPrefix + \"/logs.json\"",
  "mux.HandleFunc /health"] := rfl

theorem h_checkpoint : Generated.c19_h_checkpoint =
    baseHeaders checkpointHdrs ++ ["ctx kindContextKey=checkpoint", "serve unlimitedHandler"] := by decide +kernel
theorem h_logjson : Generated.c19_h_logjson =
    baseHeaders jsonHdrs ++ ["ctx kindContextKey=log.v3.json", "serve unlimitedHandler"] := by decide +kernel
theorem h_issuer : Generated.c19_h_issuer =
    baseHeaders issuerHdrs ++ ["ctx kindContextKey=issuer", "serve rateLimitedHandler"] := by decide +kernel

/-- the tile handler: default headers, `sunlight.ParseTilePath` with the `torchwood.ParseTilePath`
fallback on the path value behind `tile/`, and the switch on `tile.L` -/
theorem h_tile : Generated.c19_h_tile =
    baseHeaders defaultTile ++
    ["assign tilePath = \"tile/\" + r.PathValue(\"tile\")",
     "parse sunlight.ParseTilePath(tilePath)",
     "if err != nil",
     ">parse torchwood.ParseTilePath(tilePath)",
     "switch tile.L",
     "case -1"] ++ switchRow ⟨8, -1, 0, 256⟩ ++
    [">if tile.W < sunlight.TileWidth", ">>ctx kindContextKey=partial", ">else", ">>ctx kindContextKey=data",
     "case -2"] ++ switchRow ⟨8, -2, 0, 256⟩ ++
    [">ctx kindContextKey=names",
     "case default", ">ctx kindContextKey=tile",
     "serve rateLimitedHandler"] := by decide +kernel
/-- `tile.W < sunlight.TileWidth` is the model's `t.W < 256`; the three rows are all the model distinguishes -/
theorem tileWidth : Generated.c19_tileWidth = 256 := by decide
theorem switch_rows (t : Tile) : (tileHeaders t).2 = (tileHeaders ⟨8, -1, 0, 256⟩).2 ∨
    (tileHeaders t).2 = (tileHeaders ⟨8, -2, 0, 256⟩).2 ∨ (tileHeaders t).2 = defaultTile := by
  unfold tileHeaders defaultTile
  by_cases h1 : t.L = -1
  · left; simp [h1]
  · by_cases h2 : t.L = -2
    · right; left; simp [h2]
    · right; right; simp [h1, h2, tileHeaders]

/-- a log: pattern `GET host+path/`, `StripPrefix(prefix.Path)`, `logMux` -/
theorem h_log : Generated.c19_h_log = [
  "ctx rateLimitedHandlerContextKey=rateLimitedHandler",
  "ctx unlimitedHandlerContextKey=unlimitedHandler",
  "serve logMux"] := rfl
/-- a witness: the origin is stripped for `logMux` and recorded as the file prefix (`witnessRoute`) -/
theorem h_origin : Generated.c19_h_origin = [
  "assign origin = r.PathValue(\"origin\")",
  "ctx filePrefixContextKey=\"/\" + origin",
  "ctx rateLimitedHandlerContextKey=rateLimitedHandler",
  "ctx unlimitedHandlerContextKey=unlimitedHandler",
  "strip prefix.Path + \"/\" + origin -> logMux"] := rfl
theorem h_mirror_origin : Generated.c19_h_mirror_origin = [
  "assign origin = r.PathValue(\"origin\")",
  "ctx filePrefixContextKey=\"/mirror/\" + origin",
  "ctx rateLimitedHandlerContextKey=rateLimitedHandler",
  "ctx unlimitedHandlerContextKey=unlimitedHandler",
  "strip prefix.Path + \"/mirror/\" + origin -> logMux"] := rfl
theorem h_witness_json : Generated.c19_h_witness_json =
    baseHeaders jsonHdrs ++ ["ctx kindContextKey=witness.v0.json", "strip prefix.Path -> unlimitedHandler"] := by decide +kernel
theorem h_mirror_json : Generated.c19_h_mirror_json =
    baseHeaders jsonHdrs ++ ["ctx kindContextKey=mirror.v0.json", "strip prefix.Path -> unlimitedHandler"] := by decide +kernel

/-- both kinds of directory are served by `http.FileServerFS` over `filesOnlyFS{root.FS()}` of an
`os.OpenRoot`; the log mux is reached through `StripPrefix(prefix.Path)` under `GET host+path` -/
theorem wiring : Generated.c19_wiring = [
  "os.OpenRoot(lc.LocalDirectory)",
  "handler := http.FileServerFS(filesOnlyFS{root.FS()})",
  "patternPrefix := \"GET \" + prefix.Host + prefix.Path",
  "logMux := http.StripPrefix(prefix.Path, logMux)",
  "os.OpenRoot(wc.LocalDirectory)",
  "handler := http.FileServerFS(filesOnlyFS{root.FS()})",
  "patternPrefix := \"GET \" + prefix.Host + prefix.Path",
  "root.OpenRoot(\"mirror\")"] := rfl
/-- the witness file handler serves `filePrefix ++ (stripped path)` and drops the raw path -/
theorem witness_wrapper : Generated.c19_witness_wrapper = [
  "assign p = filePrefixFromContext(r.Context()) + r.URL.Path",
  "assign r2.URL.Path = p",
  "assign r2.URL.RawPath = \"\""] := rfl
/-- directories are reported as not existing (`FileState.absent`) -/
theorem filesOnly : Generated.c19_filesOnly_skel = [
  "call f.fsys.Open(name) onerr=fail guard=[]",
  "call file.Stat() onerr=fail guard=[]",
  "call file.Close() onerr=ignored guard=[ <err != nil>]",
  "guard [info.IsDir()] -> fail",
  "call file.Close() onerr=ignored guard=[info.IsDir()]"] ∧
  Generated.c19_filesOnly_returns = [
  "nil, err", "nil, err", "nil, &fs.PathError{Op: \"open\", Path: name, Err: fs.ErrNotExist}", "file, nil"] := ⟨rfl, rfl⟩

end TieC19
