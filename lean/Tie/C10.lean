import Generated.Facts
import Model.Codec
import Model.TilePath
/-!
# Tie for C10: the codec schemas of /repo's current source are the ones the model is built from

`Generated.c10_*` is regenerated from /repo on every run by `tools/extract/facts_C10.go`. The right-hand sides are
computed from the `FieldSpec` lists of `Model/Codec.lean` — the same lists `appendTileLeaf`, `readTileLeaf`,
`merkleTreeLeaf`, `marshalExtensions`, `cachePreimage` are defined by and `Props/C10.lean` is proved about.
If the code's call sequence changes (a width, an order, a guard, a tag constant, an error path), a theorem here stops
type-checking and the check reports C10 as no longer shown.
-/
namespace Tie.C10
open Codec

/-! ## encoders: the builder-call sequence on every path -/

theorem appendTileLeaf_x509 : Generated.c10_w_AppendTileLeaf_x509 = writesOf (tileLeafSpec false) := rfl
theorem appendTileLeaf_precert : Generated.c10_w_AppendTileLeaf_precert = writesOf (tileLeafSpec true) := rfl
theorem appendTileLeaf_panics :
    (Generated.c10_w_AppendTileLeaf_x509_finish, Generated.c10_w_AppendTileLeaf_precert_finish) = ("BytesOrPanic", "BytesOrPanic") := rfl

theorem merkleTreeLeaf_x509 : Generated.c10_w_MerkleTreeLeaf_x509 = writesOf (merkleLeafSpec false) := rfl
theorem merkleTreeLeaf_precert : Generated.c10_w_MerkleTreeLeaf_precert = writesOf (merkleLeafSpec true) := rfl
theorem merkleTreeLeaf_panics :
    (Generated.c10_w_MerkleTreeLeaf_x509_finish, Generated.c10_w_MerkleTreeLeaf_precert_finish) = ("BytesOrPanic", "BytesOrPanic") := rfl

theorem addExtensions_archival : Generated.c10_w_addExtensions_archival = addExtensionsWrites true := rfl
theorem addExtensions_indexed : Generated.c10_w_addExtensions_indexed = addExtensionsWrites false := rfl
/-- … and `AddUint16(0)` is what the model writes for an archival leaf: a `lenp 2` field holding nothing -/
theorem addExtensions_archival_bytes : encField (.lenp 2) [] = toBE 2 0 := by decide

theorem marshalExtensions : Generated.c10_w_MarshalExtensions = writesOf extSpec := rfl
theorem marshalExtensions_returns_error : Generated.c10_w_MarshalExtensions_finish = "Bytes" := rfl
theorem addUint40 : Generated.c10_w_addUint40 = addUint40Writes := rfl

theorem cacheHash_x509 : Generated.c10_w_computeCacheHash_x509 = writesOf (cacheSpec false) := rfl
theorem cacheHash_precert : Generated.c10_w_computeCacheHash_precert = writesOf (cacheSpec true) := rfl
theorem recomputeCacheHash_x509 : Generated.c10_w_recomputeCacheHash_x509 = writesOf (cacheSpec false) := rfl
theorem recomputeCacheHash_precert : Generated.c10_w_recomputeCacheHash_precert = writesOf (cacheSpec true) := rfl
/-- the copy in cmd/recompute-cache is the same function (AST digest modulo positions) -/
theorem cacheHash_copies_equal : Generated.c10_cacheHashDigest_ctlog = Generated.c10_cacheHashDigest_recompute := rfl

/-! ## decoders: reads (from the same field specs), guards, error paths -/

/-- the shape of `readTileLeaf`, computed from the field specs the encoder is built from -/
def readTileLeafShape : List (List String) := [
  "if" :: readsOf headerSpec ++ ["guard:timestamp > math.MaxInt64"],
  ["return", "nil, s, fmt.Errorf(\"invalid data tile\")"],
  ["assign", "e.Timestamp", "int64(timestamp)"],
  ["switch", "entryType"],
  ["case", "0"],
  "if" :: readsOf x509BodySpec,
  ["return", "nil, s, fmt.Errorf(\"invalid data tile x509_entry\")"],
  ["case", "1"],
  ["assign", "e.IsPrecert", "true"],
  "if" :: readsOf precertBodySpec,
  ["return", "nil, s, fmt.Errorf(\"invalid data tile precert_entry\")"],
  ["case", "default"],
  ["return", "nil, s, fmt.Errorf(\"invalid data tile: unknown type %d\", entryType)"],
  ["if", "guard:extensions.Empty()"],
  ["assign", "e.RFC6962ArchivalLeaf", "true"],
  ["else"],
  -- one extension, of type 0, holding exactly a uint40, nothing after it
  ["if", (readsOf extSpec).getD 0 "", "guard:extensionType != 0", (readsOf extSpec).getD 1 "",
         "readUint40(&extensionData, &e.LeafIndex)", "guard:!extensionData.Empty()", "guard:!extensions.Empty()"],
  ["return", "nil, s, fmt.Errorf(\"invalid data tile extensions\")"],
  ["for", "guard:!fingerprints.Empty()"],
  ["if", "fingerprints.CopyBytes(f[:])"],
  ["return", "nil, s, fmt.Errorf(\"invalid data tile fingerprints\")"],
  ["assign", "e.ChainFingerprints", "append(e.ChainFingerprints, f)"],
  ["end-for"],
  ["return", "e, s, nil"] ]

theorem readTileLeaf_shape : Generated.c10_r_readTileLeaf = readTileLeafShape := rfl

/-- the reader reads the header fields and then, per entry type, exactly the fields the writer wrote, in order -/
theorem reader_mirrors_writer :
    schemaOf (tileLeafSpec false) = schemaOf headerSpec ++ schemaOf x509BodySpec ∧
    schemaOf (tileLeafSpec true) = schemaOf headerSpec ++ schemaOf precertBodySpec := ⟨rfl, rfl⟩

theorem readTileLeaf_strict_wrapper : Generated.c10_r_ReadTileLeaf = [
    ["call", "readTileLeaf(tile)"],
    ["if", "guard:err != nil"],
    ["return", "nil, rest, err"],
    ["if", "guard:e.RFC6962ArchivalLeaf"],
    ["return", "nil, rest, fmt.Errorf(\"leaf is missing leaf index extension\")"],
    ["return", "e, rest, nil"] ] := rfl

theorem readTileLeaf_lenient_wrapper : Generated.c10_r_ReadTileLeafMaybeArchival = [["return", "readTileLeaf(tile)"]] := rfl

/-- `ParseExtensions`: loop, skip unknown types, return at the first type-0 extension (see `parseExtensionsAux`) -/
theorem parseExtensions_shape : Generated.c10_r_ParseExtensions = [
    ["for", "guard:!b.Empty()"],
    ["if", "b.ReadUint8(&extensionType)", "b.ReadUint16LengthPrefixed(&extension)"],
    ["return", "Extensions{}, errors.New(\"invalid extension\")"],
    ["if", "guard:extensionType == 0"],
    ["if", "readUint40(&extension, &e.LeafIndex)", "guard:!extension.Empty()"],
    ["return", "Extensions{}, errors.New(\"invalid leaf_index extension\")"],
    ["return", "e, nil"],
    ["end-for"],
    ["return", "Extensions{}, errors.New(\"missing leaf_index extension\")"] ] := rfl

theorem readUint40_shape : Generated.c10_r_readUint40 = [
    ["if", "s.ReadBytes(&v, 5)"],
    ["return", "false"],
    ["assign", "*out", "int64(v[0])<<32 | int64(v[1])<<24 | int64(v[2])<<16 | int64(v[3])<<8 | int64(v[4])"],
    ["return", "true"] ] := rfl

/-! ## tile paths: the wrappers around tlog (tlog itself is a pinned dependency, differential-checked) -/

theorem tilePath_shape : Generated.c10_r_TilePath = [
    ["if", "guard:t.H != TileHeight"],
    ["call", "panic(fmt.Sprintf(\"unexpected tile height %d\", t.H))"],
    ["if", "guard:t.L == -2"],
    ["return", "\"tile/names/\" + strings.TrimPrefix(t.Path(), \"tile/8/data/\")"],
    ["return", "\"tile/\" + strings.TrimPrefix(t.Path(), \"tile/8/\")"] ] := rfl

theorem parseTilePath_shape : Generated.c10_r_ParseTilePath = [
    ["call", "strings.CutPrefix(path, \"tile/names/\")"],
    ["if", "guard:ok"],
    ["call", "tlog.ParseTilePath(\"tile/8/data/\" + rest)"],
    ["if", "guard:err != nil"],
    ["return", "tlog.Tile{}, fmt.Errorf(\"malformed tile path %q\", path)"],
    ["return", "t, nil"],
    ["call", "strings.CutPrefix(path, \"tile/\")"],
    ["if", "guard:ok"],
    ["call", "tlog.ParseTilePath(\"tile/8/\" + rest)"],
    ["if", "guard:err != nil"],
    ["return", "tlog.Tile{}, fmt.Errorf(\"malformed tile path %q\", path)"],
    ["return", "t, nil"],
    ["return", "tlog.Tile{}, fmt.Errorf(\"malformed tile path %q\", path)"] ] := rfl

theorem tileHeight : (Generated.c10_tileHeight : Int) = TilePath.tileHeight := by decide

end Tie.C10
