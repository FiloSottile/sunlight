import Generated.Facts
import Model.SeqProgram
/-! Tie between the sequencer model and /repo's current source (regenerated facts). Shared by
C01–C04, C06–C08 and C17. -/
namespace Tie.Seq
open _root_.Seq

theorem tileWidth_256 : Generated.tileWidth = 256 := by decide
theorem tileHeight_8 : Generated.tileHeight = 8 := by decide

/-- `hasPrefix` decodes both strings into characters (`String.toList`), which the kernel does slowly on a
literal. UTF-8 is prefix-free, so the same test can be made on the bytes, which it reaches without decoding. -/
theorem hasPrefix_eq_bytes (p l : String) :
    hasPrefix p l = p.toByteArray.data.toList.isPrefixOf l.toByteArray.data.toList := by
  rw [hasPrefix, Bool.eq_iff_iff, List.isPrefixOf_iff_prefix, List.isPrefixOf_iff_prefix]
  constructor
  · rintro ⟨t, h⟩
    refine ⟨t.utf8Encode.data.toList, ?_⟩
    rw [← Array.toList_append, ← ByteArray.data_append, ← String.utf8Encode_toList (b := l), ← h,
      List.utf8Encode_append, String.utf8Encode_toList]
  · rintro ⟨t, h⟩
    apply List.isPrefix_of_utf8Encode_append_eq_utf8Encode ⟨⟨t⟩⟩
    rw [String.utf8Encode_toList, String.utf8Encode_toList]
    ext1
    exact Array.toList_inj.1 (by simpa using h)

/-- effect order, error classes and guards of a sequencing round are the model's round program -/
theorem sequencePool_program : (Generated.skelSequencePool.filter relevant) = expectedSequencePool := by
  unfold relevant; simp only [hasPrefix_eq_bytes]; decide +kernel

/-- the deferred epilogue of sequencePool closes `done` and stores the error on every exit path -/
theorem sequencePool_defer : Generated.skelSequencePool.take 5 = expectedDefer := rfl

theorem sequence_rotation : Generated.skelSequence = expectedSequence := rfl

theorem runSequencer_loop : Generated.skelRunSequencer = expectedRunSequencer := rfl

theorem addLeafToPool_order : Generated.skelAddLeafToPool = expectedAddLeaf := rfl

theorem uploadIssuer_order : Generated.skelUploadIssuer = expectedUploadIssuer := rfl

theorem applyStaged_awaits_all : Generated.skelApplyStagedUploads = expectedApply := rfl

theorem createLog_order : (Generated.skelCreateLog.filter fun l => hasPrefix "call " l) = expectedCreate := by
  simp only [hasPrefix_eq_bytes]; rfl

theorem loadLog_core : (Generated.skelLoadLog.filter loadRelevant) = expectedLoadCore := by
  unfold loadRelevant; simp only [hasPrefix_eq_bytes]; rfl

theorem openCheckpoint_future_guard :
    (Generated.skelOpenCheckpoint.filter fun l => hasPrefix "call timeNow" l || hasPrefix "guard [now" l) = expectedOpenGuards := by
  simp only [hasPrefix_eq_bytes]; rfl

end Tie.Seq
