import Generated.Facts
import Model.Subtree
/-! C16 tie: the current source of `processSignSubtreeRequest` and `serveSignSubtree` (normalised
listings regenerated by `tools/extract/facts_C16.go`) is the listing of the model's program: every
test in source order with its error class (`Subtree.program`, rendered by `Step.render`), the
arguments of `ValidSubtree`, `CheckSubtree`, the verifier list given to `note.Open`, then the
signer selection and the per-signer re-verification and signing loop (`Subtree.listingLoop`, what
`signersOf`/`reverify`/`signLine`/`signAll` model), and the error-class → status switch
(`ErrClass.status`). -/
namespace TieC16
open Subtree

theorem processSignSubtreeRequest_listing : Generated.c16_processSignSubtreeRequest = listing := by decide +kernel

theorem serveSignSubtree_listing : Generated.c16_serveSignSubtree = listingServe := by decide +kernel

theorem metaForOrigin_listing : Generated.c16_metaForOrigin =
    ["w.logsMu.RLock()", "defer w.logsMu.RUnlock()", "m, ok := w.meta[origin]", "return m, ok"] := rfl

end TieC16
