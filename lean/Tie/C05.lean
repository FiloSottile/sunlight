import Generated.Facts
import Model.Lock
/-! C05 tie: the statements, bound arguments, conditions, flags and headers in the current
`sqlite.go`, `dynamodb.go`, `etag.go` are the ones the backend models of `Model/Lock.lean`
(`Sqlite.program`, `Dynamo.program`, `ETag.program`) give a meaning to. Right-hand sides are
renderings of those statement tables (`Lock.Source`). Not tied on purpose: how `ETagBackend.Fetch`
reports a missing key (candidate finding F2; checked at run time by the oracle). -/
namespace TieC05
open Lock Lock.Source

theorem sqlite_fetch_exec : Generated.c05_sqlite_fetch_exec = sqliteExec Sqlite.program .fetch := by decide +kernel
theorem sqlite_replace_exec : Generated.c05_sqlite_replace_exec = sqliteExec Sqlite.program .replace := by decide +kernel
theorem sqlite_create_exec : Generated.c05_sqlite_create_exec = sqliteExec Sqlite.program .create := by decide +kernel
theorem sqlite_fetch_skel : Generated.c05_sqlite_fetch_skel = sqliteSkel Sqlite.program .fetch := rfl
theorem sqlite_replace_skel : Generated.c05_sqlite_replace_skel = sqliteSkel Sqlite.program .replace := rfl
theorem sqlite_create_skel : Generated.c05_sqlite_create_skel = sqliteSkel Sqlite.program .create := rfl
theorem sqlite_fetch_returns : Generated.c05_sqlite_fetch_returns = sqliteReturns .fetch := rfl
theorem sqlite_replace_returns : Generated.c05_sqlite_replace_returns = sqliteReturns .replace := rfl
theorem sqlite_create_returns : Generated.c05_sqlite_create_returns = sqliteReturns .create := rfl
theorem sqlite_open : Generated.c05_sqlite_open_exec = sqliteOpen Sqlite.program := by decide +kernel

theorem dynamo_fetch_input : Generated.c05_dynamo_fetch_input = dynamoFetchInput Dynamo.program := by decide +kernel
theorem dynamo_replace_input :
    Generated.c05_dynamo_replace_input = dynamoPutInput Dynamo.program.replaceCond "o.logID[:]" := by decide +kernel
theorem dynamo_create_input :
    Generated.c05_dynamo_create_input = dynamoPutInput Dynamo.program.createCond "logID[:]" := by decide +kernel
theorem dynamo_fetch_guards : Generated.c05_dynamo_fetch_guards = ["guard [resp.Item == nil] -> fail"] := rfl
theorem dynamo_fetch_calls : Generated.c05_dynamo_fetch_calls = ["b.client.GetItem(ctx, input)"] := rfl
theorem dynamo_replace_calls : Generated.c05_dynamo_replace_calls = ["b.client.PutItem(ctx, input)"] := rfl
theorem dynamo_create_calls : Generated.c05_dynamo_create_calls = ["b.client.PutItem(ctx, input)"] := rfl
theorem dynamo_fetch_returns : Generated.c05_dynamo_fetch_returns = dynamoReturns .fetch := rfl
theorem dynamo_replace_returns : Generated.c05_dynamo_replace_returns = dynamoReturns .replace := rfl
theorem dynamo_create_returns : Generated.c05_dynamo_create_returns = dynamoReturns .create := rfl

theorem etag_replace_headers : Generated.c05_etag_replace_headers = etagHeaders ETag.program.replaceIfMatch := by decide +kernel
theorem etag_create_headers : Generated.c05_etag_create_headers = etagHeaders ETag.program.createIfMatch := by decide +kernel
theorem etag_fetch_input :
    Generated.c05_etag_fetch_input = ["Bucket = aws.String(b.bucket)", "Key = aws.String(key)"] := rfl
theorem etag_replace_input : Generated.c05_etag_replace_input = etagPutInput "o.key" := by decide +kernel
theorem etag_create_input : Generated.c05_etag_create_input = etagPutInput "key" := by decide +kernel
theorem etag_fetch_calls : Generated.c05_etag_fetch_calls = ["b.client.GetObject(ctx, input, func)"] := rfl
theorem etag_replace_calls : Generated.c05_etag_replace_calls = ["b.client.PutObject(ctx, input, func)"] := rfl
theorem etag_create_calls : Generated.c05_etag_create_calls = ["b.client.PutObject(ctx, input, func)"] := rfl
/-- Fetch and Create derive the object key from the log ID in the same (injective) way. -/
theorem etag_keys : Generated.c05_etag_fetch_key = ["fmt.Sprintf(\"%x\", logID)"] ∧
    Generated.c05_etag_create_key = Generated.c05_etag_fetch_key ∧
    Generated.c05_etag_replace_key = [] := ⟨rfl, rfl, rfl⟩
theorem etag_fetch_handle : Generated.c05_etag_fetch_handle = etagHandle "key" "data" := by decide +kernel
theorem etag_replace_handle : Generated.c05_etag_replace_handle = etagHandle "o.key" "new" := by decide +kernel
theorem etag_replace_returns : Generated.c05_etag_replace_returns =
    ["nil, fmtErrorf", "nil, fmtErrorf", "&eTagCheckpoint{key: o.key, body: new, eTag: *out.ETag}, nil"] := rfl
theorem etag_create_returns : Generated.c05_etag_create_returns = ["fmt.Errorf", "nil"] := rfl

end TieC05
