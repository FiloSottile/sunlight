import Generated.Facts
import Model.S3Program
/-! Tie of the production object-store backend to the outlines the storage contract was read off (see
Model/S3Program.lean). Serves C04 (and every check that rests on "Upload returned nil ⇒ the object is stored"). -/
namespace TieS3

theorem s3_upload : Generated.s3_upload = S3Program.upload := rfl
theorem s3_fetch : Generated.s3_fetch = S3Program.fetch := rfl
theorem s3_discard : Generated.s3_discard = S3Program.discard := rfl

end TieS3
