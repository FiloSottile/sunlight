import Generated.Facts
import Model.Submit
import Model.SeqProgram
/-! C09 tie: the checks of `addChainOrPreChain`, their order and status codes, how the pending
entry is filled (issuer key hash from `chain[1]` / `chain[2]`), the endpoint/type closures, the
handlers' status pass-through, routing and the body limit, the issuer-before-pool order of
`addLeafToPool`, the root pool functions — and, in the pinned certificate-transparency-go, the two
NotAfter window comparisons of `ctfe.ValidateChain` and the parameter order of
`NewCertValidationOpts`. Right-hand sides are renderings of the tables in `Model/Submit.lean`. -/
namespace TieC09
open Submit

/-- calls, guards and status codes of `addChainOrPreChain`, in source order = `checks` rendered -/
theorem flow : Generated.c09_flow = expectedFlow := by decide +kernel

/-- the fields of the pending entry, incl. `chain[2]` with a precertificate signing certificate -/
theorem entry_assigns : Generated.c09_entry_assigns = expectedAssigns := by decide +kernel

/-- add-chain refuses precertificate entries, add-pre-chain refuses final certificates -/
theorem type_addchain : Generated.c09_addchain_type = expectedTypeCheck .addChain := rfl
theorem type_addprechain : Generated.c09_addprechain_type = expectedTypeCheck .addPreChain := rfl

/-- both handlers answer with the code `addChainOrPreChain` returned (204 for OPTIONS) -/
theorem handler_addchain : Generated.c09_addchain_handler = expectedHandler := rfl
theorem handler_addprechain : Generated.c09_addprechain_handler = expectedHandler := rfl

theorem routes : Generated.c09_routes = expectedRoutes := by decide +kernel
theorem max_body : Generated.c09_max_body = maxBodyBytes := by decide

/-- the options `ValidateChain` is called with, by parameter name of the pinned ct-go -/
theorem validate_opts :
    Generated.c09_ctfe_opts_params.zip Generated.c09_validate_args = expectedValidateOpts := rfl

/-- `NotAfter < start` rejects, `¬ NotAfter < limit` rejects: the window is `[start, limit)` -/
theorem window : Generated.c09_ctfe_window = expectedWindow := rfl

theorem addleaf_order : Generated.c09_addleaf_order = expectedAddLeafOrder := rfl
/-- `uploadIssuer`: the in-memory "seen" mark is set only after Fetch/Upload succeeded, under the write lock held
    across the storage operations (what `handleIssuerFault` and `uploadIssuers` assume) -/
theorem uploadissuer_order : Generated.skelUploadIssuer = _root_.Seq.expectedUploadIssuer := rfl
theorem getroots : Generated.c09_getroots_flow = expectedGetRoots := rfl
theorem rootpool : Generated.c09_rootpool_flow = expectedRootPool := rfl
theorem setroots : Generated.c09_setroots_flow = expectedSetRoots := rfl

end TieC09
