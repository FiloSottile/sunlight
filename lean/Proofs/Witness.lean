import Model.Witness
import Proofs.Merkle
import Proofs.Checkpoint
import Proofs.NoteOpen
/-! One request is: tests, the fetch of the recorded checkpoint, more tests, then the commit phase
(compare-and-swap, upload, release). `addCheckpoint_nf` is that normal form; what follows is proved on it
and not on the interpreter. -/
namespace Witness
open Checkpoint

variable {node : Hash → Hash → Hash} {emptyHash : Hash}

theorem exec_pure {g : Guard} (hg : g.isPure = true) (e : Env) (st : OState) :
    exec node emptyHash g e st = (st, Verdict.ofBool (holds node emptyHash g e st)) := by
  cases g <;> first | rfl | (simp [Guard.isPure] at hg)

theorem runGuards_pure (l : List Step) (hp : ∀ s ∈ l, s.guard.isPure = true) (e : Env) (st : OState) :
    runGuards node emptyHash l e st = (st, firstFail node emptyHash l e st) := by
  induction l with
  | nil => rfl
  | cons s rest ih =>
    simp only [runGuards, firstFail, exec_pure (hp s List.mem_cons_self)]
    cases holds node emptyHash s.guard e st
    · rfl
    · exact ih fun s hs => hp s (List.mem_cons_of_mem _ hs)

theorem runGuards_append (a b : List Step) (e : Env) (st : OState) :
    runGuards node emptyHash (a ++ b) e st =
      match runGuards node emptyHash a e st with
      | (st', none) => runGuards node emptyHash b e st'
      | r => r := by
  induction a generalizing st with
  | nil => rfl
  | cons s rest ih =>
    simp only [List.cons_append, runGuards]
    rcases exec node emptyHash s.guard e st with ⟨st', _ | _ | _⟩
    · exact ih st'
    · rfl
    · rfl

theorem firstFail_err {l : List Step} {e : Env} {st : OState} {r : Resp}
    (h : firstFail node emptyHash l e st = some r) : ∃ c k, r = .err c k := by
  induction l with
  | nil => cases h
  | cons s rest ih =>
    simp only [firstFail] at h
    split at h
    · exact ih h
    · exact ⟨_, _, (Option.some.inj h).symm⟩

/-- one link of a chain of `if`s that each answer with an error: `none` iff the condition fails and the rest is `none`
(`simp` walks the chain in `pre_none_iff`, `mid_none_iff`) -/
theorem ite_some_eq_none {α} {c : Prop} [Decidable c] {a : α} {x : Option α} :
    (if c then some a else x) = none ↔ ¬c ∧ x = none := by
  split <;> simp [*]

/-! ### the normal form of one request -/

/-- the tests before the fetch and, in `mid`, those between it and the compare-and-swap: `fetchRecorded` is
step 4 and `lockReplace` step 10 of `programU` (from 0), which `program_split` checks -/
def pre : List Step := programP ++ programU.take 4
def mid : List Step := (programU.drop 5).take 5

theorem program_split :
    program = pre ++ (⟨.fetchRecorded, .internal⟩ :: (mid ++ [⟨.lockReplace, .internal⟩, ⟨.upload, .internal⟩])) := by
  decide

theorem pre_pure : ∀ s ∈ pre, s.guard.isPure = true := by decide
theorem mid_pure : ∀ s ∈ mid, s.guard.isPure = true := by decide

def afterUpload (e : Env) (st2 : OState) : OState × Resp :=
  match execUpload e st2 with
  | (st3, .dead) => (st3, .dead)
  | (st3, .fail) => (st3, .err .internal 0)
  | (st3, .pass) => finish e st3

def afterMid (e : Env) (st1 : OState) : OState × Resp :=
  match execReplace e st1 with
  | (st2, .dead) => (st2, .dead)
  | (st2, .fail) => (st2, .err .internal 0)
  | (st2, .pass) => afterUpload e st2

variable (node emptyHash) in
def afterFetch (e : Env) (st1 : OState) : OState × Resp :=
  match firstFail node emptyHash mid e st1 with
  | some r => (st1, r)
  | none => afterMid e st1

theorem addCheckpoint_nf (e : Env) (st : OState) :
    addCheckpoint node emptyHash e st =
      match firstFail node emptyHash pre e st with
      | some r => (st, r)
      | none =>
        match execFetch emptyHash e st with
        | (st1, .dead) => (st1, .dead)
        | (st1, .fail) => (st1, .err .internal 0)
        | (st1, .pass) => afterFetch node emptyHash e st1 := by
  unfold addCheckpoint run
  rw [program_split, runGuards_append, runGuards_pure pre pre_pure]
  cases firstFail node emptyHash pre e st with
  | some r => rfl
  | none =>
    simp only [runGuards, exec, afterFetch, afterMid, afterUpload]
    rcases execFetch emptyHash e st with ⟨st1, _ | _ | _⟩ <;> dsimp only
    · rw [runGuards_append, runGuards_pure mid mid_pure]
      cases firstFail node emptyHash mid e st1 with
      | some r => rfl
      | none =>
        simp only [runGuards, exec]
        rcases execReplace e st1 with ⟨st2, _ | _ | _⟩ <;> dsimp only
        · rcases execUpload e st2 with ⟨st3, _ | _ | _⟩ <;> rfl
        · rfl
    · rfl

variable (emptyHash) in
structure PreFacts (e : Env) : Prop where
  body : e.req.body = .ok
  lc : ∃ lc, e.logCfg = some lc
  opened : ∃ sigs, e.opened = .ok sigs
  ck : ∃ c, e.ckpt = some c ∧ c.origin = e.origin ∧ c.ext = []
  le : e.req.old ≤ e.newSize
  zero : e.newSize = 0 → e.newHash = emptyHash

theorem pre_eval (e : Env) (st : OState) :
    firstFail node emptyHash pre e st =
      if e.req.body ≠ .ok then some (.err .badRequest 0)
      else if e.logCfg = none then some (.err .unknownLog 0)
      else match e.opened with
        | .error .unverified | .error .invalidSignature => some (.err .invalidSignature 0)
        | .error _ => some (.err .badRequest 0)
        | .ok _ =>
          match e.ckpt with
          | none => some (.err .badCheckpoint 0)
          | some c =>
            if c.origin ≠ e.origin then some (.err .internal 0)
            else if c.ext ≠ [] then some (.err .extensions 0)
            else if e.newSize < e.req.old then some (.err .badRequest 0)
            else if e.newSize = 0 ∧ e.newHash ≠ emptyHash then some (.err .proof 0)
            else none := by
  simp only [pre, programP, programU, List.take, List.cons_append, List.nil_append, firstFail, holds, failResp]
  cases hb : e.req.body <;> simp
  cases hl : e.logCfg <;> simp
  cases ho : e.opened with
  | error x => cases x <;> simp
  | ok sigs =>
    simp
    cases hc : e.ckpt with
    | none => simp
    | some c =>
      simp
      by_cases h1 : c.origin = e.origin <;> simp [h1]
      by_cases h2 : c.ext = [] <;> simp [h2]
      by_cases h3 : e.req.old ≤ e.newSize
      · simp only [h3, Nat.not_lt.2 h3, if_true, if_false]
        by_cases h4 : e.newSize = 0 <;> by_cases h5 : e.newHash = emptyHash <;> simp [h4, h5]
      · simp [h3, Nat.lt_of_not_le h3]

theorem preFacts_iff {e : Env} : PreFacts emptyHash e ↔ e.req.body = .ok ∧ (∃ lc, e.logCfg = some lc) ∧
    (∃ sigs, e.opened = .ok sigs) ∧ (∃ c, e.ckpt = some c ∧ c.origin = e.origin ∧ c.ext = []) ∧
    e.req.old ≤ e.newSize ∧ (e.newSize = 0 → e.newHash = emptyHash) :=
  ⟨fun ⟨a, b, c, d, f, g⟩ => ⟨a, b, c, d, f, g⟩, fun ⟨a, b, c, d, f, g⟩ => ⟨a, b, c, d, f, g⟩⟩

theorem pre_none_iff {e : Env} {st : OState} : firstFail node emptyHash pre e st = none ↔ PreFacts emptyHash e := by
  rw [pre_eval, preFacts_iff]
  cases ho : e.opened with
  | error x => cases x <;> simp only [ite_some_eq_none, reduceCtorEq, and_false, false_and, exists_false]
  | ok vs =>
    cases hc : e.ckpt <;>
      simp only [ite_some_eq_none, ne_eq, Decidable.not_not, Nat.not_lt, not_and, Option.ne_none_iff_exists']
    · simp
    · simp [and_assoc]

variable (node emptyHash) in
structure MidFacts (e : Env) (st : OState) : Prop where
  known : ∃ k, known emptyHash e st = some k ∧ k.1 = e.req.old ∧
    (e.req.old ≠ 0 → Merkle.checkTree node e.req.proof.reverse e.newSize e.newHash k.1 k.2 = true) ∧
    (e.req.old = 0 → e.req.proof = [])
  signed : ∃ s, e.signed = some s

theorem mid_eval (e : Env) (st : OState) :
    firstFail node emptyHash mid e st =
      match known emptyHash e st with
      | none => some (.err .conflict 0)
      | some k =>
        if k.1 ≠ e.req.old then some (.err .conflict k.1)
        else if ¬((e.req.old ≠ 0 → Merkle.checkTree node e.req.proof.reverse e.newSize e.newHash k.1 k.2 = true) ∧
            (e.req.old = 0 → e.req.proof = [])) then some (.err .proof 0)
        else if e.signed = none then some (.err .internal 0)
        else none := by
  simp only [mid, programU, List.drop, List.take, firstFail, holds, failResp]
  cases hk : known emptyHash e st with
  | none => simp
  | some k =>
    by_cases h1 : k.1 = e.req.old
    · by_cases h0 : e.req.old = 0 <;> cases hs : e.signed <;> simp [h1, h0]
      all_goals cases Merkle.checkTree node e.req.proof.reverse e.newSize e.newHash e.req.old k.2 <;> rfl
    · simp [h1]

theorem midFacts_iff {e : Env} {st : OState} : MidFacts node emptyHash e st ↔
    (∃ k, known emptyHash e st = some k ∧ k.1 = e.req.old ∧
      (e.req.old ≠ 0 → Merkle.checkTree node e.req.proof.reverse e.newSize e.newHash k.1 k.2 = true) ∧
      (e.req.old = 0 → e.req.proof = [])) ∧ ∃ s, e.signed = some s :=
  ⟨fun ⟨a, b⟩ => ⟨a, b⟩, fun ⟨a, b⟩ => ⟨a, b⟩⟩

theorem mid_none_iff {e : Env} {st : OState} :
    firstFail node emptyHash mid e st = none ↔ MidFacts node emptyHash e st := by
  rw [mid_eval, midFacts_iff]
  cases hk : known emptyHash e st <;>
    simp only [ite_some_eq_none, ne_eq, Decidable.not_not, Option.ne_none_iff_exists', reduceCtorEq, false_and, exists_false]
  simp [and_assoc]

theorem setCache_cache {st : OState} {i j : Nat} {x : Option LockVal} {v : LockVal}
    (h : (st.setCache i x).cache j = some v) : st.cache j = some v ∨ x = some v := by
  simp only [OState.setCache] at h
  split at h
  · exact .inr h
  · exact .inl h

structure SameCore (a b : OState) : Prop where
  lock : a.lock = b.lock
  hist : a.hist = b.hist
  released : a.released = b.released
  pub : a.pub = b.pub
  signedMsgs : a.signedMsgs = b.signedMsgs
  cache : ∀ i v, a.cache i = some v → b.cache i = some v ∨ v = b.lock

theorem execFetch_core {e : Env} {st st1 : OState} {v : Verdict} (h : execFetch emptyHash e st = (st1, v)) :
    SameCore st1 st := by
  have : st1 = (execFetch emptyHash e st).1 := by rw [h]
  subst this
  unfold execFetch
  repeat' split
  all_goals refine ⟨rfl, rfl, rfl, rfl, rfl, fun i v h => ?_⟩
  iterate 3 exact .inl h
  exact (setCache_cache h).imp_right fun h => (Option.some.inj h).symm

theorem Verdict.ofBool_pass {b : Bool} : Verdict.ofBool b = .pass ↔ b = true := by
  cases b <;> simp [Verdict.ofBool]

/-- what `checkpointLocked` will hand the instance: its cached copy, or (nothing cached, fetch succeeds)
the stored value -/
def View (e : Env) (st : OState) (v : LockVal) : Prop :=
  st.cache e.inst = some v ∨ (st.cache e.inst = none ∧ e.fetchOut = .ok ∧ v = st.lock)

theorem execFetch_pass_iff {e : Env} {st st1 : OState} :
    execFetch emptyHash e st = (st1, .pass) ↔
      (known emptyHash e st1).isSome ∧
      ((∃ v, st.cache e.inst = some v) ∧ st1 = st ∨
       (st.cache e.inst = none ∧ e.fetchOut = .ok ∧
        st1 = ({ st with log := st.log ++ [.lockFetch e.inst .ok] } : OState).setCache e.inst (some st.lock))) := by
  unfold execFetch
  split
  · rename_i v hv
    simp only [Prod.mk.injEq, Verdict.ofBool_pass, hv, reduceCtorEq, false_and, or_false, Option.some.injEq,
      exists_eq', true_and]
    exact ⟨fun ⟨h1, h2⟩ => h1 ▸ ⟨h2, rfl⟩, fun ⟨h2, h1⟩ => h1 ▸ ⟨rfl, h2⟩⟩
  · rename_i hv
    cases ho : e.fetchOut <;> simp [hv, Out.seen, Verdict.ofBool_pass]
    exact ⟨fun ⟨h1, h2⟩ => h1 ▸ ⟨h2, rfl⟩, fun ⟨h2, h1⟩ => h1 ▸ ⟨rfl, h2⟩⟩

variable (emptyHash) in
theorem execFetch_pass {e : Env} {st st1 : OState} (h : execFetch emptyHash e st = (st1, .pass)) :
    ∃ v, st1.cache e.inst = some v ∧ (st.cache e.inst = some v ∨ (st.cache e.inst = none ∧ v = st.lock)) ∧
      st1.lock = st.lock := by
  rcases (execFetch_pass_iff.1 h).2 with ⟨⟨v, hv⟩, rfl⟩ | ⟨hv, -, rfl⟩
  · exact ⟨v, hv, .inl hv, rfl⟩
  · exact ⟨st.lock, by simp [OState.setCache], .inr ⟨hv, rfl⟩, rfl⟩

variable (emptyHash) in
theorem execFetch_known {e : Env} {st st1 : OState} (h : execFetch emptyHash e st = (st1, .pass)) :
    ∃ k, known emptyHash e st1 = some k :=
  Option.isSome_iff_exists.1 (execFetch_pass_iff.1 h).1

theorem execFetch_view {e : Env} {st : OState} {v : LockVal} {k : Nat × Hash} (hv : View e st v)
    (hk : openStored emptyHash e.cfg e.origin v = some k) :
    ∃ st1, execFetch emptyHash e st = (st1, .pass) ∧ known emptyHash e st1 = some k ∧
      st1.cache e.inst = some v ∧ st1.lock = st.lock := by
  rcases hv with hc | ⟨hc, hf, rfl⟩
  · have hkn : known emptyHash e st = some k := by simp [known, hc, hk]
    exact ⟨st, execFetch_pass_iff.2 ⟨by simp [hkn], .inl ⟨⟨v, hc⟩, rfl⟩⟩, hkn, hc, rfl⟩
  · refine ⟨_, execFetch_pass_iff.2 ⟨?_, .inr ⟨hc, hf, rfl⟩⟩, ?_, by simp [OState.setCache], rfl⟩ <;>
      simp [known, OState.setCache, hk]

/-! ### the commit phase -/

/-- the answers of a request cut short by a store operation: none at all, or 500 -/
def Resp.Aborted (r : Resp) : Prop := r = .dead ∨ r = .err .internal 0

theorem Resp.Aborted.ne_ok {r : Resp} (h : r.Aborted) (sigs : List SigLine) : r ≠ .ok sigs := by
  rcases h with rfl | rfl <;> nofun

structure Quiet (st : OState) (r : OState × Resp) : Prop where
  released : r.1.released = st.released
  resp : ∀ sigs, r.2 ≠ .ok sigs

structure Kept (st : OState) (r : OState × Resp) : Prop extends Quiet st r where
  lock : r.1.lock = st.lock
  hist : r.1.hist = st.hist
  pub : r.1.pub = st.pub

structure Released (e : Env) (st : OState) (s : Note) (r : OState × Resp) : Prop where
  released : r.1.released = st.released ++ [(e.newSize, e.newHash)]
  resp : r.2 = .ok (ownLines e.cfg s)
  replaceOut : e.replaceOut = .ok
  uploadOut : e.uploadOut = .ok
  pub : r.1.pub = some s

structure Stored (e : Env) (st : OState) (s : Note) (r : OState × Resp) : Prop where
  lock : r.1.lock = some (s, st.signedMsgs.length)
  hist : r.1.hist = st.hist ++ [(e.newSize, e.newHash)]
  pub : r.1.pub = st.pub ∨ r.1.pub = some s
  tail : Quiet st r ∨ Released e st s r

-- the structures as conjunctions, for the `simp` of `afterMid_spec`
theorem quiet_iff {st : OState} {r : OState × Resp} :
    Quiet st r ↔ r.1.released = st.released ∧ ∀ sigs, r.2 ≠ .ok sigs :=
  ⟨fun ⟨a, b⟩ => ⟨a, b⟩, fun ⟨a, b⟩ => ⟨a, b⟩⟩

theorem kept_iff {st : OState} {r : OState × Resp} :
    Kept st r ↔ Quiet st r ∧ r.1.lock = st.lock ∧ r.1.hist = st.hist ∧ r.1.pub = st.pub :=
  ⟨fun ⟨a, b, c, d⟩ => ⟨a, b, c, d⟩, fun ⟨a, b, c, d⟩ => ⟨a, b, c, d⟩⟩

theorem released_iff {e : Env} {st : OState} {s : Note} {r : OState × Resp} :
    Released e st s r ↔ r.1.released = st.released ++ [(e.newSize, e.newHash)] ∧ r.2 = .ok (ownLines e.cfg s) ∧
      e.replaceOut = .ok ∧ e.uploadOut = .ok ∧ r.1.pub = some s :=
  ⟨fun ⟨a, b, c, d, f⟩ => ⟨a, b, c, d, f⟩, fun ⟨a, b, c, d, f⟩ => ⟨a, b, c, d, f⟩⟩

theorem stored_iff {e : Env} {st : OState} {s : Note} {r : OState × Resp} :
    Stored e st s r ↔ r.1.lock = some (s, st.signedMsgs.length) ∧ r.1.hist = st.hist ++ [(e.newSize, e.newHash)] ∧
      (r.1.pub = st.pub ∨ r.1.pub = some s) ∧ (Quiet st r ∨ Released e st s r) :=
  ⟨fun ⟨a, b, c, d⟩ => ⟨a, b, c, d⟩, fun ⟨a, b, c, d⟩ => ⟨a, b, c, d⟩⟩

/-- The commit phase, entered with the cached copy `v` and the signed note `s`, over the outcomes of the two
store operations. The two messages are signed whatever the compare-and-swap does; it takes effect only if
the cached copy IS the stored value (`core`). -/
structure CommitPhase (e : Env) (st : OState) (v : LockVal) (s : Note) (r : OState × Resp) : Prop where
  signedMsgs : r.1.signedMsgs = st.signedMsgs ++ [(e.cfg.k1.key, s.text), (e.cfg.k2.key, s.text)]
  others : ∀ i, i ≠ e.inst → r.1.cache i = st.cache i
  own : r.1.cache e.inst = st.cache e.inst ∨ r.1.cache e.inst = none ∨ r.1.cache e.inst = some r.1.lock
  core : Kept st r ∨ (v = st.lock ∧ Stored e st s r)
  resp : r.2.Aborted ∨ r.2 = .ok (ownLines e.cfg s)
  ok : v = st.lock → e.replaceOut = .ok → e.uploadOut = .ok → r.2 = .ok (ownLines e.cfg s)
  log : r.2 = .ok (ownLines e.cfg s) →
    r.1.log = st.log ++ [.lockReplace e.inst s true .ok, .upload e.inst s true .ok]

theorem commitPhase_iff {e : Env} {st : OState} {v : LockVal} {s : Note} {r : OState × Resp} :
    CommitPhase e st v s r ↔
      r.1.signedMsgs = st.signedMsgs ++ [(e.cfg.k1.key, s.text), (e.cfg.k2.key, s.text)] ∧
      (∀ i, i ≠ e.inst → r.1.cache i = st.cache i) ∧
      (r.1.cache e.inst = st.cache e.inst ∨ r.1.cache e.inst = none ∨ r.1.cache e.inst = some r.1.lock) ∧
      (Kept st r ∨ (v = st.lock ∧ Stored e st s r)) ∧ (r.2.Aborted ∨ r.2 = .ok (ownLines e.cfg s)) ∧
      (v = st.lock → e.replaceOut = .ok → e.uploadOut = .ok → r.2 = .ok (ownLines e.cfg s)) ∧
      (r.2 = .ok (ownLines e.cfg s) →
        r.1.log = st.log ++ [.lockReplace e.inst s true .ok, .upload e.inst s true .ok]) :=
  ⟨fun ⟨a, b, c, d, f, g, h⟩ => ⟨a, b, c, d, f, g, h⟩, fun ⟨a, b, c, d, f, g, h⟩ => ⟨a, b, c, d, f, g, h⟩⟩

theorem afterMid_spec {e : Env} {st : OState} {v : LockVal} {s : Note}
    (hc : st.cache e.inst = some v) (hs : e.signed = some s) : CommitPhase e st v s (afterMid e st) := by
  simp only [commitPhase_iff, kept_iff, stored_iff, quiet_iff, released_iff, afterMid, execReplace, hc, hs]
  by_cases hv : v = st.lock
  · cases hr : e.replaceOut <;> simp +contextual [hc, hv, Out.applied, Out.seen, OState.setCache, Resp.Aborted]
    simp only [afterUpload, execUpload, hs]
    cases hu : e.uploadOut <;> simp +contextual [Out.applied, Out.seen, finish, hs]
  · cases hr : e.replaceOut <;> simp +contextual [hc, hv, Out.applied, Out.seen, OState.setCache, Resp.Aborted]

/-! ### one request, summarised -/

variable (node emptyHash) in
inductive Outcome (e : Env) (st : OState) : OState × Resp → Prop
  | parse {r} : firstFail node emptyHash pre e st = some r → Outcome e st (st, r)
  | fetch {st1 v r} : PreFacts emptyHash e → execFetch emptyHash e st = (st1, v) → r.Aborted → Outcome e st (st1, r)
  | check {st1 r} : PreFacts emptyHash e → execFetch emptyHash e st = (st1, .pass) →
      firstFail node emptyHash mid e st1 = some r → Outcome e st (st1, r)
  | commit {st1 v s} : PreFacts emptyHash e → execFetch emptyHash e st = (st1, .pass) →
      MidFacts node emptyHash e st1 → st1.cache e.inst = some v → e.signed = some s → Outcome e st (afterMid e st1)

variable (node emptyHash) in
theorem addCheckpoint_outcome (e : Env) (st : OState) :
    Outcome node emptyHash e st (addCheckpoint node emptyHash e st) := by
  rw [addCheckpoint_nf]
  split
  · exact .parse ‹_›
  · have hp := pre_none_iff.1 ‹_›
    split
    · exact .fetch hp ‹_› (.inl rfl)
    · exact .fetch hp ‹_› (.inr rfl)
    · unfold afterFetch
      split
      · exact .check hp ‹_› ‹_›
      · have hm := mid_none_iff.1 ‹_›
        obtain ⟨v, hc, -⟩ := execFetch_pass emptyHash ‹_›
        exact hm.signed.elim fun s hs => .commit hp ‹_› hm hc hs

theorem resp_of_pre {e : Env} {st : OState} {r : Resp} (h : firstFail node emptyHash pre e st = some r) :
    addCheckpoint node emptyHash e st = (st, r) := by
  rw [addCheckpoint_nf, h]

theorem resp_of_mid {e : Env} {st st1 : OState} {r : Resp} (h1 : firstFail node emptyHash pre e st = none)
    (h2 : execFetch emptyHash e st = (st1, .pass)) (h3 : firstFail node emptyHash mid e st1 = some r) :
    addCheckpoint node emptyHash e st = (st1, r) := by
  rw [addCheckpoint_nf, h1]
  simp only [h2, afterFetch, h3]

theorem resp_of_commit {e : Env} {st st1 : OState} (h1 : firstFail node emptyHash pre e st = none)
    (h2 : execFetch emptyHash e st = (st1, .pass)) (h3 : firstFail node emptyHash mid e st1 = none) :
    addCheckpoint node emptyHash e st = afterMid e st1 := by
  rw [addCheckpoint_nf, h1]
  simp only [h2, afterFetch, h3]

variable (node emptyHash) in
/-- what is known of a request whose compare-and-swap takes effect. `known` speaks of the value in the lock
store, not of the cached copy the tests read: the two are equal when the swap takes effect. -/
structure Accepted (e : Env) (st : OState) (s : Note) : Prop where
  pre : PreFacts emptyHash e
  signed : e.signed = some s
  known : ∃ k, openStored emptyHash e.cfg e.origin st.lock = some k ∧ k.1 = e.req.old ∧
    (e.req.old ≠ 0 → Merkle.checkTree node e.req.proof.reverse e.newSize e.newHash k.1 k.2 = true) ∧
    (e.req.old = 0 → e.req.proof = [])

variable (node emptyHash) in
/-- What one request does to the state. `log`: on a 200 the compare-and-swap and the upload are the last two
store operations of the request, after at most the fetch `f`. -/
structure Summary (e : Env) (st : OState) (r : OState × Resp) : Prop where
  cache : ∀ i v, r.1.cache i = some v → st.cache i = some v ∨ v = st.lock ∨ v = r.1.lock
  core : Kept st r ∨ ∃ s, Accepted node emptyHash e st s ∧ Stored e st s r
  signedMsgs : r.1.signedMsgs = st.signedMsgs ∨ ∃ s, PreFacts emptyHash e ∧ e.signed = some s ∧
    r.1.signedMsgs = st.signedMsgs ++ [(e.cfg.k1.key, s.text), (e.cfg.k2.key, s.text)]
  log : ∀ s, e.signed = some s → r.2 = .ok (ownLines e.cfg s) → ∃ f, (f = [] ∨ f = [Effect.lockFetch e.inst .ok]) ∧
    r.1.log = st.log ++ f ++ [.lockReplace e.inst s true .ok, .upload e.inst s true .ok]

variable (node emptyHash) in
theorem addCheckpoint_summary (e : Env) (st : OState) :
    Summary node emptyHash e st (addCheckpoint node emptyHash e st) := by
  have h := addCheckpoint_outcome node emptyHash e st
  generalize addCheckpoint node emptyHash e st = x at h
  -- a request that ends after the fetch at most, and not with a 200
  have early : ∀ {st1 r}, SameCore st1 st → (∀ sigs, r ≠ .ok sigs) → Summary node emptyHash e st (st1, r) :=
    fun c hr => ⟨fun i v h => (c.cache i v h).imp_right .inl, .inl ⟨⟨c.released, hr⟩, c.lock, c.hist, c.pub⟩,
      .inl c.signedMsgs, fun _ _ h => absurd h (hr _)⟩
  cases h with
  | parse h1 =>
    obtain ⟨_, _, rfl⟩ := firstFail_err h1
    exact early ⟨rfl, rfl, rfl, rfl, rfl, fun _ _ => .inl⟩ nofun
  | fetch _ hf ha => exact early (execFetch_core hf) ha.ne_ok
  | check _ hf h3 =>
    obtain ⟨_, _, rfl⟩ := firstFail_err h3
    exact early (execFetch_core hf) nofun
  | @commit st1 v s hp hf hm hc hs =>
    have c := execFetch_core hf
    have sp := afterMid_spec hc hs
    refine ⟨fun i v' h => ?_, ?_, .inr ⟨s, hp, hs, c.signedMsgs ▸ sp.signedMsgs⟩, fun s' hs' hok => ?_⟩
    · have hi : (afterMid e st1).1.cache i = st1.cache i ∨ (afterMid e st1).1.cache i = none ∨
          (afterMid e st1).1.cache i = some (afterMid e st1).1.lock := by
        by_cases hi : i = e.inst
        · exact hi ▸ sp.own
        · exact .inl (sp.others i hi)
      rcases hi with h' | h' | h' <;> rw [h'] at h
      · exact (c.cache i v' h).imp_right .inl
      · cases h
      · exact .inr (.inr (Option.some.inj h).symm)
    · -- the commit phase started from `st1`, which has the stored value, history, … of `st`
      rcases sp.core with k | ⟨rfl, t⟩
      · exact .inl ⟨⟨k.released.trans c.released, k.resp⟩, k.lock.trans c.lock, k.hist.trans c.hist, k.pub.trans c.pub⟩
      · refine .inr ⟨s, ⟨hp, hs, ?_⟩, c.signedMsgs ▸ t.lock, c.hist ▸ t.hist, c.pub ▸ t.pub, ?_⟩
        · obtain ⟨k, hk, rest⟩ := hm.known
          exact ⟨k, by simpa [known, hc, c.lock] using hk, rest⟩
        · exact t.tail.imp (fun q => ⟨q.released.trans c.released, q.resp⟩)
            fun rl => ⟨c.released ▸ rl.released, rl.resp, rl.replaceOut, rl.uploadOut, rl.pub⟩
    · cases hs.symm.trans hs'
      have hlog := sp.log hok
      rcases (execFetch_pass_iff.1 hf).2 with ⟨_, rfl⟩ | ⟨_, _, rfl⟩
      · exact ⟨[], .inl rfl, by simpa using hlog⟩
      · exact ⟨_, .inr rfl, by simpa [OState.setCache] using hlog⟩

variable (node emptyHash) in
theorem tail_resp (e : Env) (st : OState) (h1 : firstFail node emptyHash pre e st = none) :
    let r := (addCheckpoint node emptyHash e st).2
    r = .dead ∨ r = .err .internal 0 ∨ (∃ n, r = .err .conflict n) ∨ r = .err .proof 0 ∨ ∃ sigs, r = .ok sigs := by
  have h := addCheckpoint_outcome node emptyHash e st
  generalize addCheckpoint node emptyHash e st = x at h
  have ab : ∀ {r : Resp}, r.Aborted → r = .dead ∨ r = .err .internal 0 ∨ (∃ n, r = .err .conflict n) ∨
      r = .err .proof 0 ∨ ∃ sigs, r = .ok sigs := fun h => h.elim .inl fun h => .inr (.inl h)
  cases h with
  | parse h => rw [h1] at h; cases h
  | fetch _ _ ha => exact ab ha
  | check _ _ h3 =>
    rw [mid_eval] at h3
    repeat' split at h3
    all_goals cases h3 <;> simp
  | commit _ _ _ hc hs =>
    exact (afterMid_spec hc hs).resp.elim ab fun hok => .inr (.inr (.inr (.inr ⟨_, hok⟩)))

theorem opened_ok {e : Env} {vs : List SigLine} (h : e.opened = .ok vs) :
    ∃ lc note, e.logCfg = some lc ∧ e.req.note = .wellformed note ∧
      noteOpen (lc.verifiers.map VKey.verifier) note = .ok vs := by
  unfold Env.opened at h
  split at h
  · exact ⟨_, _, ‹_›, ‹_›, h⟩
  · split at h <;> cases h
  · cases h

theorem signed_some {e : Env} {s : Note} (hs : e.signed = some s) :
    ∃ vs c, e.opened = .ok vs ∧ e.reCkpt = some c ∧ signable c = true ∧
      s = { text := formatCheckpoint c,
            sigs := (vs.filter fun l => !(e.cfg.k1.matches l || e.cfg.k2.matches l)) ++
              [e.cfg.k1.sign (formatCheckpoint c), e.cfg.k2.sign (formatCheckpoint c)] } := by
  unfold Env.signed at hs
  split at hs
  · split at hs
    · exact ⟨_, _, ‹_›, ‹_›, ‹_›, (Option.some.inj hs).symm⟩
    · cases hs
  · cases hs

theorem signed_text {e : Env} {s : Note} {c : Checkpoint} (hs : e.signed = some s) (hc : e.ckpt = some c) :
    s.text = formatCheckpoint { origin := c.origin, n := c.n, hash := c.hash, ext := [] } ∧
    parseCheckpoint s.text = some { origin := c.origin, n := c.n, hash := c.hash, ext := [] } := by
  obtain ⟨vs, c', -, hc', hsig, rfl⟩ := signed_some hs
  simp only [Env.reCkpt, hc, Option.map_some, Option.some.injEq] at hc'
  subst hc'
  simp only [signable, Bool.and_eq_true, decide_eq_true_eq] at hsig
  obtain ⟨_, p⟩ := parseCheckpoint_eq_some.mp hc
  exact ⟨rfl, parse_format c.origin c.hash c.n p.origin_nl (by omega) p.n_nonneg p.n_le p.hash_length⟩

variable (node emptyHash) in
theorem addCheckpoint_signedMsgs (e : Env) (st : OState) :
    ∀ m ∈ (addCheckpoint node emptyHash e st).1.signedMsgs, m ∈ st.signedMsgs ∨
      ((m.1 = e.cfg.k1.key ∨ m.1 = e.cfg.k2.key) ∧
       ∃ c, e.ckpt = some c ∧ c.origin = e.origin ∧
         m.2 = formatCheckpoint { origin := c.origin, n := c.n, hash := c.hash, ext := [] } ∧
         parseCheckpoint m.2 = some { origin := c.origin, n := c.n, hash := c.hash, ext := [] }) := by
  intro m hm
  rcases (addCheckpoint_summary node emptyHash e st).signedMsgs with h | ⟨s, hp, hs, h⟩ <;> rw [h] at hm
  · exact .inl hm
  · obtain ⟨c, hc, hco, -⟩ := hp.ck
    obtain ⟨ht, hparse⟩ := signed_text hs hc
    refine (List.mem_append.1 hm).imp_right fun hin => ?_
    simp only [List.mem_cons, List.mem_nil_iff, or_false] at hin
    rcases hin with rfl | rfl
    · exact ⟨.inl rfl, c, hc, hco, ht, hparse⟩
    · exact ⟨.inr rfl, c, hc, hco, ht, hparse⟩

/-! ### the chain invariant -/

theorem openStored_ckOf {cfg : Cfg} {o : Bytes} {v : LockVal} {k : Nat × Hash}
    (h : openStored emptyHash cfg o v = some k) : ckOf emptyHash o v = some k := by
  rcases v with _ | ⟨note, stamp⟩
  · exact h
  · simp only [openStored] at h
    split at h
    · cases h
    · exact h

theorem Consistent.refl (a : Nat × Hash) : Consistent node emptyHash a a :=
  ⟨Nat.le_refl _, fun B hB => by
    obtain ⟨h1, h2⟩ := hB
    rw [List.take_of_length_le (by omega)]; exact ⟨h1, h2⟩⟩

theorem Consistent.trans {a b c : Nat × Hash} (h1 : Consistent node emptyHash a b)
    (h2 : Consistent node emptyHash b c) : Consistent node emptyHash a c :=
  ⟨Nat.le_trans h1.1 h2.1, fun B hB => by
    have := h1.2 _ (h2.2 B hB)
    rwa [List.take_take, Nat.min_eq_left h1.1] at this⟩

theorem pairwise_concat {α} {R : α → α → Prop} (tr : ∀ {a b c}, R a b → R b c → R a c) {l : List α} {k x : α}
    (hl : l.Pairwise R) (hk : l.getLast? = some k) (hkx : R k x) : (l ++ [x]).Pairwise R := by
  obtain ⟨ys, rfl⟩ := List.getLast?_eq_some_iff.1 hk
  refine List.pairwise_append.2 ⟨hl, List.pairwise_singleton _ _, fun a ha b hb => ?_⟩
  obtain rfl := List.mem_singleton.1 hb
  rcases List.mem_append.1 ha with hin | hin
  · exact tr ((List.pairwise_append.1 hl).2.2 a hin k (List.mem_singleton_self _)) hkx
  · rwa [List.mem_singleton.1 hin]

theorem forall_mem_concat {α} {P : α → Prop} {l : List α} {x : α} (hl : ∀ a ∈ l, P a) (hx : P x) : ∀ a ∈ l ++ [x], P a :=
  List.forall_mem_append.2 ⟨hl, List.forall_mem_singleton.2 hx⟩

theorem accepted_consistent (inj : Merkle.NodeInj node) {e : Env} {st : OState} {s : Note}
    (ha : Accepted node emptyHash e st s) {k : Nat × Hash}
    (hk : openStored emptyHash e.cfg e.origin st.lock = some k) (hz : k.1 = 0 → k.2 = emptyHash) :
    Consistent node emptyHash k (e.newSize, e.newHash) := by
  obtain ⟨k', hk', r1, r2, -⟩ := ha.known
  cases hk.symm.trans hk'
  refine ⟨r1 ▸ ha.pre.le, fun B ⟨hl, hm⟩ => ?_⟩
  by_cases h0 : e.req.old = 0
  -- no proof was checked: the recorded head of size 0 has to be the empty tree (`Inv.zero`)
  · have hk0 : k.1 = 0 := r1.trans h0
    exact ⟨by simp [hk0], by rw [hk0, List.take_zero, hz hk0]; exact Merkle.mth_nil node emptyHash⟩
  · exact ⟨by rw [List.length_take, hl, r1]; exact Nat.min_eq_left ha.pre.le,
      Merkle.checkTree_sound node emptyHash inj _ _ _ _ _ (r2 h0) B hl hm⟩

variable (node emptyHash) in
structure Inv (o : Bytes) (st : OState) : Prop where
  chain : st.hist.Pairwise (Consistent node emptyHash)
  last : ∀ k, ckOf emptyHash o st.lock = some k → st.hist.getLast? = some k
  -- the `zeroRoot` test; a request with old size 0 is accepted without a proof
  zero : ∀ c ∈ st.hist, c.1 = 0 → c.2 = emptyHash
  rel : ∀ c ∈ st.released, c ∈ st.hist
  pub : ∀ s, st.pub = some s → ∀ k, ckOfNote o s = some k → k ∈ st.hist

theorem inv_init (o : Bytes) : Inv node emptyHash o (OState.init emptyHash) where
  chain := by simp [OState.init]
  last := by intro k hk; simp only [OState.init, ckOf] at hk ⊢; cases hk; rfl
  zero := by intro c hc h0; simp [OState.init] at hc; subst hc; rfl
  rel := by intro c hc; simp [OState.init] at hc
  pub := by intro s hs; simp [OState.init] at hs

theorem inv_restart {o : Bytes} {st : OState} (h : Inv node emptyHash o st) (i : Nat) :
    Inv node emptyHash o (st.restart i) := ⟨h.chain, h.last, h.zero, h.rel, h.pub⟩

theorem accepted_ckOf {e : Env} {st : OState} {s : Note} (ha : Accepted node emptyHash e st s)
    {k : Nat × Hash} (hk : ckOfNote e.origin s = some k) : k = (e.newSize, e.newHash) := by
  obtain ⟨c, hc, ho, -⟩ := ha.pre.ck
  simp only [ckOfNote, (signed_text ha.signed hc).2, ho, ne_eq, not_true_eq_false, if_false, Option.some.injEq] at hk
  simp only [Env.newSize, Env.newHash, hc, hk]

theorem inv_add (inj : Merkle.NodeInj node) {st : OState} (e : Env) (h : Inv node emptyHash e.origin st) :
    Inv node emptyHash e.origin (addCheckpoint node emptyHash e st).1 := by
  rcases (addCheckpoint_summary node emptyHash e st).core with k | ⟨s, ha, t⟩
  · exact ⟨k.hist ▸ h.chain, by rw [k.lock, k.hist]; exact h.last, k.hist ▸ h.zero, by rw [k.hist, k.released]; exact h.rel,
      by rw [k.hist, k.pub]; exact h.pub⟩
  · obtain ⟨k, hk, -⟩ := ha.known
    have hlast := h.last k (openStored_ckOf hk)
    -- the new head extends the last of the history (what the lock store holds), hence, by transitivity, all of it
    have hkc := accepted_consistent inj ha hk (h.zero k (List.mem_of_getLast? hlast))
    have hnew : ∀ {k'}, ckOfNote e.origin s = some k' → k' ∈ st.hist ++ [(e.newSize, e.newHash)] :=
      fun hk' => by simp [accepted_ckOf ha hk']
    refine ⟨?_, ?_, ?_, ?_, ?_⟩
    · rw [t.hist]; exact pairwise_concat (fun h1 h2 => h1.trans h2) h.chain hlast hkc
    · intro k' hk'
      rw [t.lock] at hk'
      rw [t.hist, accepted_ckOf ha hk']; simp
    · rw [t.hist]; exact forall_mem_concat h.zero ha.pre.zero
    · have hold : ∀ c ∈ st.released, c ∈ st.hist ++ [(e.newSize, e.newHash)] := fun c hc => List.mem_append_left _ (h.rel c hc)
      rw [t.hist]
      rcases t.tail with q | rl
      · rw [q.released]; exact hold
      · rw [rl.released]; exact forall_mem_concat hold (by simp)
    · intro s' hs' k' hk'
      rw [t.hist]
      rcases t.pub with h4 | h4 <;> rw [h4] at hs'
      · exact List.mem_append_left _ (h.pub s' hs' k' hk')
      · cases hs'; exact hnew hk'

variable (node emptyHash) in
theorem reachable_inv (inj : Merkle.NodeInj node) {cfg : Cfg} {o : Bytes} {st : OState}
    (hr : Reachable node emptyHash cfg o st) : Inv node emptyHash o st := by
  induction hr with
  | init => exact inv_init o
  | add e st _ _ ho ih => subst ho; exact inv_add inj e ih
  | restart i st _ ih => exact inv_restart ih i

theorem noteOpen_keys {ks : List VKey} {note : Note} {out : List SigLine}
    (h : noteOpen (ks.map VKey.verifier) note = .ok out) :
    out ≠ [] ∧ ∀ s ∈ out, s ∈ note.sigs ∧
      ∃ k ∈ ks, k.name = s.name ∧ k.hash = s.hash ∧ s.sig = symSig k.key note.text := by
  obtain ⟨hne, hall⟩ := noteOpen_sound h
  refine ⟨hne, fun s hs => ?_⟩
  obtain ⟨hin, v, hv, h1, h2, h3⟩ := hall s hs
  obtain ⟨k, hk, rfl⟩ := List.mem_map.1 hv
  exact ⟨hin, k, hk, h1, h2, by simpa [VKey.verifier] using h3⟩

/-- the framing of `symSig` reads back -/
theorem replicate_sep {m n : Nat} {x y : Bytes}
    (h : List.replicate m (1 : UInt8) ++ 0 :: x = List.replicate n 1 ++ 0 :: y) : m = n ∧ x = y := by
  obtain ⟨h1, h2⟩ := TilePath.append_cons_inj (by simp) (by simp) h
  exact ⟨by simpa using congrArg List.length h1, h2⟩

end Witness
