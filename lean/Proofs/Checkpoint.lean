import Proofs.Codec
import Proofs.TilePath
import Model.Checkpoint
/-!
What the two parsers and the verify closure accept, as iffs: `parseNoteSig_eq_some` (the exact inverse of the encoder),
`parseCheckpoint_eq_some` (through `CheckpointText`), `verifier_iff` (through `Accepts`). `sign_opens_of_correct` then
runs `signTreeHead` and `openCheckpoint` on what these say, for any signature scheme that accepts what it signs.
-/
namespace Checkpoint
open Codec TilePath

theorem noteSigSchema_eq : noteSigSchema = [.fixed 8, .fixed 1, .fixed 1, .lenp 2] := rfl

theorem parseNoteSig_encode (x : NoteSig) (wf : x.WF) (rest : Bytes) :
    parseNoteSig (x.encode ++ rest) = if rest = [] then some x else none := by
  unfold parseNoteSig NoteSig.encode
  rw [dec_enc noteSigSchema [_, _, _, _] rest
    ⟨toBE_length _ _, toBE_length _ _, toBE_length _ _, wf.signature_lt, trivial⟩]
  simp only
  rw [fromBE_toBE 8 _ (by simpa using wf.timestamp_lt), fromBE_toBE 1 _ (by simpa using wf.hashAlg_lt),
    fromBE_toBE 1 _ (by simpa using wf.sigAlg_lt)]

theorem parseNoteSig_eq_some {sig : Bytes} {x : NoteSig} : parseNoteSig sig = some x ↔ sig = x.encode ∧ x.WF := by
  refine ⟨fun h => ?_, fun ⟨h, wf⟩ => by rw [h, ← List.append_nil x.encode, parseNoteSig_encode x wf, if_pos rfl]⟩
  unfold parseNoteSig at h
  split at h
  · rename_i ts ha sa s rest hd
    split at h
    · rename_i hr
      cases h
      obtain ⟨⟨(h8 : ts.length = 8), (h1 : ha.length = 1), (h1' : sa.length = 1), (hl : s.length < 65536), _⟩, henc⟩ :=
        dec_eq_some.mp hd
      obtain ⟨e1, l1⟩ := be_of_length h8
      obtain ⟨e2, l2⟩ := be_of_length h1
      obtain ⟨e3, l3⟩ := be_of_length h1'
      refine ⟨?_, l1, l2, l3, hl⟩
      simp only [NoteSig.encode, e1, e2, e3]
      rw [← henc, hr, List.append_nil]
    · cases h
  · cases h

theorem sigTimestamp_encode (x : NoteSig) (h : x.timestamp ≤ 9223372036854775807) :
    sigTimestamp x.encode = some (Int.ofNat x.timestamp) := by
  unfold sigTimestamp NoteSig.encode
  have : enc [.fixed 8, .fixed 1, .fixed 1, .lenp 2] [toBE 8 x.timestamp, toBE 1 x.hashAlg, toBE 1 x.sigAlg, x.signature] =
      enc [.fixed 8] [toBE 8 x.timestamp] ++ enc [.fixed 1, .fixed 1, .lenp 2] [toBE 1 x.hashAlg, toBE 1 x.sigAlg, x.signature] := by
    simp [enc]
  rw [noteSigSchema_eq, this, dec_enc [.fixed 8] [_] _ ⟨toBE_length _ _, trivial⟩]
  simp only
  rw [fromBE_toBE 8 _ (by omega), if_neg (by unfold maxInt64; omega)]

theorem independentVerify_eq_true {cv : Crypto} {key : PubKey} {n ts : Nat} {root s : Bytes} :
    independentVerify cv key n ts root s = true ↔ ∃ sth, sthInput n ts root = some sth ∧ cv key sth s = true := by
  unfold independentVerify
  cases sthInput n ts root <;> simp

/-- what the verify closure has checked of `(msg, sig)` when it accepts, `c` and `x` being what it parsed -/
structure Accepts (cv : Crypto) (name : Bytes) (key : PubKey) (msg sig : Bytes) (c : Checkpoint) (x : NoteSig) : Prop where
  parses : parseCheckpoint msg = some c
  origin : c.origin = name
  no_ext : c.ext = []
  blob : parseNoteSig sig = some x
  hash_alg : x.hashAlg = 4
  sig_alg : algOf key.kind = some x.sigAlg
  verifies : independentVerify cv key c.n.toNat x.timestamp c.hash x.signature = true

theorem verifier_iff {cv : Crypto} {name : Bytes} {key : PubKey} {msg sig : Bytes} :
    verifier cv name key msg sig = true ↔ ∃ c x, Accepts cv name key msg sig c x := by
  have h : verifier cv name key msg sig = true ↔
      ∃ c x, parseCheckpoint msg = some c ∧ c.origin = name ∧ c.ext = [] ∧
        parseNoteSig sig = some x ∧ x.hashAlg = 4 ∧ algOf key.kind = some x.sigAlg ∧
        independentVerify cv key c.n.toNat x.timestamp c.hash x.signature = true := by
    unfold verifier independentVerify
    cases parseCheckpoint msg with
    | none => simp
    | some c =>
      cases parseNoteSig sig with
      | none => simp
      | some x =>
        cases algOf key.kind with
        | none => cases h : sthInput c.n.toNat x.timestamp c.hash <;> simp [h]
        | some alg => cases h : sthInput c.n.toNat x.timestamp c.hash <;> simp [h, eq_comm (a := alg)]
  exact h.trans ⟨fun ⟨c, x, parses, origin, no_ext, blob, hash_alg, sig_alg, verifies⟩ =>
      ⟨c, x, { parses, origin, no_ext, blob, hash_alg, sig_alg, verifies }⟩,
    fun ⟨c, x, a⟩ => ⟨c, x, a.parses, a.origin, a.no_ext, a.blob, a.hash_alg, a.sig_alg, a.verifies⟩⟩

theorem verifier_encode (cv : Crypto) (name : Bytes) (key : PubKey) (c : Checkpoint) (msg : Bytes) (x : NoteSig)
    (hp : parseCheckpoint msg = some c) (ho : c.origin = name) (he : c.ext = []) (hwf : x.WF) (hh : x.hashAlg = 4)
    (ha : algOf key.kind = some x.sigAlg) :
    verifier cv name key msg x.encode = independentVerify cv key c.n.toNat x.timestamp c.hash x.signature := by
  have hpx := parseNoteSig_eq_some.mpr ⟨rfl, hwf⟩
  rw [Bool.eq_iff_iff, verifier_iff]
  constructor
  · rintro ⟨c', x', a⟩
    cases hp.symm.trans a.parses
    cases hpx.symm.trans a.blob
    exact a.verifies
  · exact fun hi => ⟨c, x,
      { parses := hp, origin := ho, no_ext := he, blob := hpx, hash_alg := hh, sig_alg := ha, verifies := hi }⟩

theorem b64Char_facts : ∀ k : Fin 64, b64Val (b64Char k.val) = some k.val ∧ b64Char k.val ≠ 61 ∧
    b64Char k.val ≠ 10 ∧ b64Char k.val ≠ 13 := by decide

theorem b64Char_val (n : Nat) : b64Val (b64Char (n % 64)) = some (n % 64) :=
  (b64Char_facts ⟨n % 64, Nat.mod_lt _ (by decide)⟩).1

theorem b64Char_ne (n : Nat) : b64Char (n % 64) ≠ 61 ∧ b64Char (n % 64) ≠ 10 ∧ b64Char (n % 64) ≠ 13 :=
  (b64Char_facts ⟨n % 64, Nat.mod_lt _ (by decide)⟩).2

theorem ofNat_eq_of_toNat {a : UInt8} {n : Nat} (h : n = a.toNat) : UInt8.ofNat n = a := by subst h; simp

/-- the four sextets of a 24-bit value recompose it; the leading two and three recompose what is left of it when the
others are dropped -/
theorem sextets (v : Nat) (h : v < 16777216) :
    v / 262144 % 64 * 64 + v / 4096 % 64 = v / 4096 ∧
    (v / 262144 % 64 * 64 + v / 4096 % 64) * 64 + v / 64 % 64 = v / 64 ∧
    ((v / 262144 % 64 * 64 + v / 4096 % 64) * 64 + v / 64 % 64) * 64 + v % 64 = v := by omega

theorem b64_quanta_roundtrip (h : Bytes) : b64DecodeQuanta (b64Encode h) = some h := by
  induction h using b64Encode.induct with
  | case1 => rfl
  | case2 a =>
    have ha := a.toNat_lt
    simp only [b64Encode, b64DecodeQuanta, and_self, if_true, b64Char_val, (sextets _ (show a.toNat * 65536 < _ by omega)).1]
    rw [ofNat_eq_of_toNat (a := a) (by omega)]
  | case3 a b =>
    have ha := a.toNat_lt
    have hb := b.toNat_lt
    simp only [b64Encode, b64DecodeQuanta, and_self, if_true, (b64Char_ne _).1, if_false, b64Char_val,
      (sextets _ (show a.toNat * 65536 + b.toNat * 256 < _ by omega)).2.1]
    rw [ofNat_eq_of_toNat (a := a) (by omega), ofNat_eq_of_toNat (a := b) (by omega)]
  | case4 a b c rest ih =>
    have ha := a.toNat_lt
    have hb := b.toNat_lt
    have hc := c.toNat_lt
    simp only [b64Encode, b64DecodeQuanta, (b64Char_ne _).1, false_and, if_false, ih, b64Char_val,
      (sextets _ (show a.toNat * 65536 + b.toNat * 256 + c.toNat < _ by omega)).2.2]
    rw [ofNat_eq_of_toNat (a := a) (by omega), ofNat_eq_of_toNat (a := b) (by omega), ofNat_eq_of_toNat (a := c) (by omega)]

theorem b64Encode_chars (h : Bytes) : ∀ c ∈ b64Encode h, c ≠ 10 ∧ c ≠ 13 := by
  have ok (n : Nat) := (b64Char_ne n).2
  induction h using b64Encode.induct with
  | case1 => simp [b64Encode]
  | case2 a => simp [b64Encode, ok]
  | case3 a b => simp [b64Encode, ok]
  | case4 a b c rest ih => simpa [b64Encode, ok] using ih

theorem b64Encode_length (h : Bytes) : (b64Encode h).length = 4 * ((h.length + 2) / 3) := by
  induction h using b64Encode.induct with
  | case1 => rfl
  | case2 a => simp [b64Encode]
  | case3 a b => simp [b64Encode]
  | case4 a b c rest ih =>
    simp only [b64Encode, List.length_cons, ih]
    omega

theorem b64_roundtrip (h : Bytes) : b64Decode (b64Encode h) = some h := by
  have : (b64Encode h).filter (fun c => c ≠ 10 && c ≠ 13) = b64Encode h :=
    List.filter_eq_self.mpr fun c hc => by simp [b64Encode_chars h c hc]
  rw [b64Decode, this, b64_quanta_roundtrip]

theorem cutLine_eq_some {t l r : Bytes} : cutLine t = some (l, r) ↔ t = l ++ 10 :: r ∧ (10 : UInt8) ∉ l := by
  constructor
  · intro h
    induction t generalizing l with
    | nil => cases h
    | cons b bs ih =>
      rw [cutLine] at h
      split at h
      · rename_i hb
        cases h
        exact ⟨by rw [hb]; rfl, by simp⟩
      · rename_i hb
        obtain ⟨⟨l', r'⟩, hc, h⟩ := Option.map_eq_some_iff.mp h
        cases h
        obtain ⟨rfl, hl⟩ := ih hc
        exact ⟨rfl, by simpa [eq_comm, hb] using hl⟩
  · rintro ⟨rfl, h⟩
    induction l with
    | nil => simp [cutLine]
    | cons b bs ih =>
      have hb : b ≠ 10 := fun hc => h (by simp [hc])
      have hbs : (10 : UInt8) ∉ bs := fun hc => h (by simp [hc])
      simp [cutLine, hb, ih hbs]

/-- what `ParseCheckpoint` accepts (`parseCheckpoint_eq_some`). `hashLine` is the base64 line: `c.hash` does not
determine it, the decoder not being strict -/
structure CheckpointText (text : Bytes) (c : Checkpoint) (hashLine : Bytes) : Prop where
  text_eq : text = c.origin ++ 10 :: (fmtInt c.n ++ 10 :: (hashLine ++ 10 :: c.ext))
  origin_nl : (10 : UInt8) ∉ c.origin
  hashLine_nl : (10 : UInt8) ∉ hashLine
  n_nonneg : 0 ≤ c.n
  n_le : c.n ≤ 9223372036854775807
  hash : b64Decode hashLine = some c.hash
  hash_length : c.hash.length = 32
  ext_ok : extOk c.ext true = true
  size : text.length ≤ maxCheckpointSize
  newline : hasSuffix text [10] = true

theorem parseCheckpoint_eq_some {text : Bytes} {c : Checkpoint} :
    parseCheckpoint text = some c ↔ ∃ hashLine, CheckpointText text c hashLine := by
  constructor
  · intro h
    unfold parseCheckpoint at h
    split at h
    · cases h
    rename_i hsize
    split at h
    · cases h
    rename_i hnl
    split at h
    · cases h
    rename_i l0 r0 h0
    split at h
    · cases h
    rename_i l1 r1 h1
    split at h
    · cases h
    rename_i l2 rest h2
    split at h
    · cases h
    rename_i n hat
    split at h
    · cases h
    rename_i hn
    split at h
    · cases h
    rename_i hash hdec
    split at h
    · cases h
    rename_i hlen
    split at h
    · cases h
    rename_i hext
    cases h
    obtain ⟨rfl, ho⟩ := cutLine_eq_some.mp h0
    obtain ⟨rfl, -⟩ := cutLine_eq_some.mp h1
    obtain ⟨rfl, hl2⟩ := cutLine_eq_some.mp h2
    obtain rfl : l1 = fmtInt n := Classical.byContradiction fun hc => hn (Or.inr hc)
    exact ⟨l2,
      { text_eq := rfl, origin_nl := ho, hashLine_nl := hl2, n_nonneg := Int.not_lt.mp fun hc => hn (Or.inl hc),
        n_le := (atoi_range _ _ hat).2, hash := hdec, hash_length := by simpa using hlen, ext_ok := by simpa using hext,
        size := by omega, newline := by simpa using hnl }⟩
  · rintro ⟨l2, p⟩
    have hf10 : (10 : UInt8) ∉ fmtInt c.n := not_mem_of_all (fmtInt_digits p.n_nonneg) (by decide)
    have hsize : ¬ ((text.filter (· = 10)).length < 3 ∨ text.length > maxCheckpointSize) := by
      have := p.size
      have : 3 ≤ (text.filter (· = 10)).length := by simp [p.text_eq, List.filter_append]; omega
      omega
    rw [parseCheckpoint, if_neg hsize, p.newline]
    simp only [Bool.not_true, Bool.false_eq_true, if_false]
    rw [cutLine_eq_some.mpr ⟨p.text_eq, p.origin_nl⟩]
    simp only
    rw [cutLine_eq_some.mpr ⟨rfl, hf10⟩]
    simp only
    rw [cutLine_eq_some.mpr ⟨rfl, p.hashLine_nl⟩]
    simp only [atoi_fmtInt p.n_nonneg p.n_le]
    rw [if_neg (by have := p.n_nonneg; simp; omega), p.hash]
    simp [p.hash_length, p.ext_ok]

theorem parseCheckpoint_bounds {msg : Bytes} {c : Checkpoint} (h : parseCheckpoint msg = some c) :
    0 ≤ c.n ∧ c.n ≤ 9223372036854775807 ∧ c.hash.length = 32 :=
  let ⟨_, p⟩ := parseCheckpoint_eq_some.mp h
  ⟨p.n_nonneg, p.n_le, p.hash_length⟩

/-- `ParseCheckpoint(c.String()) = c`. `999000` is `maxCheckpointSize` less 19 digits, 44 base64 characters and 3
newlines, rounded down; `sign_opens_of_correct` has 255 -/
theorem parse_format (origin hash : Bytes) (n : Int) (ho : (10 : UInt8) ∉ origin) (hol : origin.length ≤ 999000)
    (hn0 : 0 ≤ n) (hn1 : n ≤ 9223372036854775807) (hh : hash.length = 32) :
    parseCheckpoint (formatCheckpoint { origin := origin, n := n, hash := hash, ext := [] }) =
      some { origin := origin, n := n, hash := hash, ext := [] } := by
  have hbl : (b64Encode hash).length = 44 := by rw [b64Encode_length, hh]
  have hfl : (fmtInt n).length ≤ 19 := by
    rw [fmtInt_nonneg hn0]
    exact natDigits_length _ _ 18 (by omega)
  have e : formatCheckpoint { origin := origin, n := n, hash := hash, ext := [] } =
      origin ++ 10 :: (fmtInt n ++ 10 :: (b64Encode hash ++ 10 :: [])) := by simp [formatCheckpoint]
  exact parseCheckpoint_eq_some.mpr ⟨b64Encode hash,
    { text_eq := e, origin_nl := ho, hashLine_nl := fun hc => (b64Encode_chars hash 10 hc).1 rfl, n_nonneg := hn0, n_le := hn1,
      hash := b64_roundtrip hash, hash_length := hh, ext_ok := rfl,
      size := by rw [e]; simp [maxCheckpointSize, hbl]; omega,
      newline := by
        rw [e, show origin ++ 10 :: (fmtInt n ++ 10 :: (b64Encode hash ++ 10 :: [])) =
          (origin ++ 10 :: fmtInt n ++ 10 :: b64Encode hash) ++ [10] by simp]
        exact hasSuffix_append _ _ }⟩

/-! ### signTreeHead opens -/

theorem digitallySigned_eq (s : Bytes) (h : s.length < 65536) :
    digitallySigned s = some (4 :: 3 :: (toBE 2 s.length ++ s)) :=
  encChecked_eq_some.mpr ⟨⟨rfl, rfl, h, trivial⟩, by
    show _ = [4] ++ ([3] ++ ((toBE 2 s.length ++ s) ++ []))
    simp⟩

theorem injectedBlob_eq (time : Int) (s : Bytes) :
    injectedBlob time (4 :: 3 :: (toBE 2 s.length ++ s)) =
      NoteSig.encode { timestamp := u64 time, hashAlg := 4, sigAlg := 3, signature := s } := by
  unfold injectedBlob NoteSig.encode
  rw [noteSigSchema_eq]
  show enc [.fixed 8] [toBE 8 (u64 time)] ++ _ = enc [.fixed 8, .fixed 1, .fixed 1, .lenp 2] [toBE 8 (u64 time), toBE 1 4, toBE 1 3, s]
  simp only [enc, encField, List.append_nil, show toBE 1 4 = [4] by decide, show toBE 1 3 = [3] by decide]
  simp

theorem symCv_self (key : PubKey) (m : Bytes) : symCv key m (symSign key m) = true := by simp [symCv]

theorem symSign_length (key : PubKey) (m : Bytes) : (symSign key m).length = 5 + key.id.length + m.length := by
  simp [symSign, toBE_length]; omega

theorem sthInput_length {n ts : Nat} {r a : Bytes} (h : sthInput n ts r = some a) : a.length = 50 := by
  obtain ⟨hr, rfl⟩ := sthInput_eq_some.mp h
  simp [sthSchema, enc, encField, toBE_length, hr]

theorem subtreeMessage_some (name origin hash : Bytes) (t n : Nat) (h1 : 1 ≤ name.length ∧ name.length ≤ 255)
    (h2 : origin.length ≤ 255) (ht : t ≤ 9223372036854775807) (hh : hash.length = 32) :
    ∃ m, subtreeMessage name t origin n hash = some m := by
  rw [subtreeMessage, if_neg (by unfold maxInt64; omega)]
  exact ⟨_, encChecked_eq_some.mpr ⟨⟨by decide, by show name.length < 256 ^ 1; omega, toBE_length _ _,
    by show origin.length < 256 ^ 1; omega, toBE_length _ _, toBE_length _ _, hh, trivial⟩, rfl⟩⟩

theorem cosig_verifies {cv : Crypto} {name hash m s : Bytes} {wkey : PubKey} {n : Int} {cosigTime : Nat}
    (hparse : parseCheckpoint (formatCheckpoint { origin := name, n := n, hash := hash, ext := [] }) =
      some { origin := name, n := n, hash := hash, ext := [] })
    (hnlen : 1 ≤ name.length ∧ name.length ≤ 255) (hco : cosigTime ≤ 9223372036854775807)
    (hm : subtreeMessage name cosigTime name n.toNat hash = some m) (hs : cv wkey m s = true) :
    cosigVerify cv name wkey (formatCheckpoint { origin := name, n := n, hash := hash, ext := [] })
      (toBE 8 cosigTime ++ s) = true := by
  have hd : dec [.fixed 8] (toBE 8 cosigTime ++ s) = some ([toBE 8 cosigTime], s) := by
    have := dec_enc [.fixed 8] [toBE 8 cosigTime] s ⟨toBE_length _ _, trivial⟩
    simpa [enc, encField] using this
  unfold cosigVerify
  rw [hd]
  simp only
  rw [fromBE_toBE 8 _ (by omega), if_neg (by unfold maxInt64; omega), hparse]
  simp only [ne_eq, not_true_eq_false, if_false]
  rw [if_neg (by omega)]
  simp only [hm]
  exact hs

theorem openLoop_skip (known : List NoteVerifier) (text : Bytes) (g rest : List SigLine) (cnt : Nat)
    (seen : List (Bytes × Nat)) (acc : List SigLine)
    (hunk : ∀ s ∈ g, known.filter (fun v => v.name = s.name ∧ v.hash = s.hash) = [])
    (hcnt : cnt + g.length ≤ 100) :
    openLoop known text (g ++ rest) cnt seen acc = openLoop known text rest (cnt + g.length) seen acc := by
  induction g generalizing cnt with
  | nil => simp
  | cons s gs ih =>
    simp only [List.cons_append, openLoop]
    rw [if_neg (by simp at hcnt; omega), hunk s (by simp)]
    simp only
    rw [ih (cnt + 1) (fun x hx => hunk x (by simp [hx])) (by simp at hcnt ⊢; omega)]
    congr 1
    simp; omega

theorem noteOpen_pair {known : List NoteVerifier} {text : Bytes} {g : List SigLine} {s1 s2 : SigLine}
    {v1 v2 : NoteVerifier}
    (hf1 : known.filter (fun v => v.name = s1.name ∧ v.hash = s1.hash) = [v1])
    (hf2 : known.filter (fun v => v.name = s2.name ∧ v.hash = s2.hash) = [v2])
    (hne : (s1.name, s1.hash) ≠ (s2.name, s2.hash))
    (hv1 : v1.verify text s1.sig = true) (hv2 : v2.verify text s2.sig = true)
    (hg : ∀ s ∈ g, known.filter (fun v => v.name = s.name ∧ v.hash = s.hash) = []) (hgl : g.length ≤ 98) :
    noteOpen known { text := text, sigs := g ++ [s1, s2] } = .ok [s1, s2] := by
  have hseen : ((s1.name, s1.hash) :: ([] : List (Bytes × Nat))).contains (s2.name, s2.hash) = false := by
    simp [Ne.symm hne]
  unfold noteOpen
  simp only
  rw [openLoop_skip _ _ g _ 0 [] [] hg (by omega), openLoop, if_neg (by omega), hf1]
  simp only [List.contains_nil, Bool.false_eq_true, if_false, hv1, if_true]
  rw [openLoop, if_neg (by omega), hf2]
  simp only [hseen, Bool.false_eq_true, if_false, hv2, if_true, openLoop]
  simp

theorem noteOpen_two {v1 v2 : NoteVerifier} {text : Bytes} {g : List SigLine} {rs ws : SigLine} (swap : Bool)
    (hhash : v1.hash ≠ v2.hash)
    (hrs : rs.name = v1.name ∧ rs.hash = v1.hash) (hws : ws.name = v2.name ∧ ws.hash = v2.hash)
    (hv1 : v1.verify text rs.sig = true) (hv2 : v2.verify text ws.sig = true)
    (hg : ∀ s ∈ g, [v1, v2].filter (fun v => v.name = s.name ∧ v.hash = s.hash) = []) (hgl : g.length ≤ 98) :
    noteOpen [v1, v2] { text := text, sigs := g ++ (if swap then [ws, rs] else [rs, ws]) } =
      .ok (if swap then [ws, rs] else [rs, ws]) := by
  have hf1 : [v1, v2].filter (fun v => v.name = rs.name ∧ v.hash = rs.hash) = [v1] := by
    simp only [List.filter_cons, List.filter_nil, hrs.1, hrs.2, and_self, decide_true, if_true]
    rw [if_neg (by simpa using fun _ h => hhash h.symm)]
  have hf2 : [v1, v2].filter (fun v => v.name = ws.name ∧ v.hash = ws.hash) = [v2] := by
    simp [hws.1, hws.2, hhash]
  have hne : (rs.name, rs.hash) ≠ (ws.name, ws.hash) := fun h => hhash (hrs.2 ▸ hws.2 ▸ (Prod.mk.inj h).2)
  cases swap with
  | false => exact noteOpen_pair hf1 hf2 hne hv1 hv2 hg hgl
  | true => exact noteOpen_pair hf2 hf1 hne.symm hv2 hv1 hg hgl

/-- the intermediate values `sth`, `blob`, `m`, `wsig` are variables, so that unfolding `signTreeHead` does not unfold them -/
theorem signTreeHead_eq {cv : Crypto} {sign : PubKey → Bytes → Bytes} {c : Config} {n time : Int} {hash sth blob wsig m : Bytes}
    {cosigTime : Nat} (grease : List SigLine) (swap : Bool)
    (hsth : sthInput (u64 n) (u64 time) hash = some sth) (hsl : (sign c.key sth).length < 65536)
    (hblob : injectedBlob time (4 :: 3 :: (toBE 2 (sign c.key sth).length ++ sign c.key sth)) = blob)
    (hver : verifier cv c.name c.key (formatCheckpoint { origin := c.name, n := n, hash := hash, ext := [] }) blob = true)
    (hparse : parseCheckpoint (formatCheckpoint { origin := c.name, n := n, hash := hash, ext := [] }) =
      some { origin := c.name, n := n, hash := hash, ext := [] })
    (hnlen : 1 ≤ c.name.length ∧ c.name.length ≤ 255)
    (hm : subtreeMessage c.name cosigTime c.name n.toNat hash = some m)
    (hwe : toBE 8 cosigTime ++ sign c.witnessKey m = wsig) :
    signTreeHead cv sign c n time hash cosigTime grease swap =
      some { text := formatCheckpoint { origin := c.name, n := n, hash := hash, ext := [] },
             sigs := (grease.filter fun s => !(s.name = c.name ∧ (s.hash = c.keyHash ∨ s.hash = c.witnessKeyHash))) ++
        (if swap then [{ name := c.name, hash := c.witnessKeyHash, sig := wsig }, { name := c.name, hash := c.keyHash, sig := blob }]
         else [{ name := c.name, hash := c.keyHash, sig := blob }, { name := c.name, hash := c.witnessKeyHash, sig := wsig }]) } := by
  unfold signTreeHead
  rw [hsth]
  simp only
  rw [digitallySigned_eq _ hsl]
  simp only
  unfold injectedSign
  simp only
  rw [hblob, hver]
  simp only [if_true]
  rw [hparse]
  simp only
  rw [if_neg (fun h => h.elim (· rfl) (by omega)), hm]
  simp only [hwe]

theorem openCheckpointWith_two (v1 v2 : NoteVerifier) (name : Bytes) {text : Bytes} {now ts : Int} {g : List SigLine}
    (rs ws : SigLine) (swap : Bool) {p : Checkpoint} (hhash : v1.hash ≠ v2.hash)
    (hrs : rs.name = v1.name ∧ rs.hash = v1.hash) (hws : ws.name = v2.name ∧ ws.hash = v2.hash)
    (hv1 : v1.verify text rs.sig = true) (hv2 : v2.verify text ws.sig = true)
    (hg : ∀ s ∈ g, [v1, v2].filter (fun v => v.name = s.name ∧ v.hash = s.hash) = []) (hgl : g.length ≤ 98)
    (hts : sigTimestamp rs.sig = some ts) (hparse : parseCheckpoint text = some p) (hnow : ts ≤ now)
    (ho : p.origin = name) (he : p.ext = []) :
    openCheckpointWith v1 v2 name now { text := text, sigs := g ++ if swap then [ws, rs] else [rs, ws] } = .ok (p, ts) := by
  have hfilt : (if swap then [ws, rs] else [rs, ws]).filter (fun s => s.hash = v1.hash) = [rs] := by
    have : ¬ v2.hash = v1.hash := fun h => hhash h.symm
    cases swap <;> simp [hrs.2, hws.2, this]
  unfold openCheckpointWith
  rw [noteOpen_two swap hhash hrs hws hv1 hv2 hg hgl]
  simp only [hfilt, hts, hparse]
  rw [if_neg (by omega)]
  simp [ho, he]

/-- what the log signs, opens — for every signature scheme that accepts what it signs and whose signatures over the
50-byte STH input fit the 16-bit length prefix of `digitallySign` -/
theorem sign_opens_of_correct (cv : Crypto) (sign : PubKey → Bytes → Bytes) (c : Config) (n time : Int) (hash : Bytes)
    (cosigTime : Nat) (grease : List SigLine) (swap : Bool) (now : Int)
    (hcs : ∀ k m, cv k m (sign k m) = true) (hlen : ∀ m : Bytes, m.length = 50 → (sign c.key m).length < 65536)
    (pre : SignPre c n time hash cosigTime grease) (hnow : time ≤ now) :
    ∃ note, signTreeHead cv sign c n time hash cosigTime grease swap = some note ∧
      note.text = formatCheckpoint { origin := c.name, n := n, hash := hash, ext := [] } ∧
      openCheckpoint cv c now note = .ok ({ origin := c.name, n := n, hash := hash, ext := [] }, time) ∧
      (∃ s ∈ note.sigs, s.name = c.name ∧ s.hash = c.keyHash ∧ sigTimestamp s.sig = some time ∧
        verifier cv c.name c.key note.text s.sig = true) ∧
      (∃ s ∈ note.sigs, s.name = c.name ∧ s.hash = c.witnessKeyHash ∧
        cosigVerify cv c.name c.witnessKey note.text s.sig = true) := by
  obtain ⟨hnl, hnlen, hk, hkid, hhash, ⟨hn0, hn1⟩, ⟨ht0, ht1⟩, hh, hco, hgl⟩ := pre
  have hparse := parse_format c.name hash n hnl (by omega) hn0 hn1 hh
  have hun : u64 n = n.toNat := u64_of_nonneg hn0 hn1
  have hut : u64 time = time.toNat := u64_of_nonneg ht0 ht1
  obtain ⟨sth, hsth⟩ : ∃ sth, sthInput n.toNat time.toNat hash = some sth := ⟨_, sthInput_eq_some.mpr ⟨hh, rfl⟩⟩
  have hsl := hlen sth (sthInput_length hsth)
  have hver : verifier cv c.name c.key (formatCheckpoint { origin := c.name, n := n, hash := hash, ext := [] })
      (NoteSig.encode { timestamp := time.toNat, hashAlg := 4, sigAlg := 3, signature := sign c.key sth }) = true := by
    rw [verifier_encode cv c.name c.key _ _ _ hparse rfl rfl
      ⟨by show time.toNat < _; omega, by show (4 : Nat) < 256; decide, by show (3 : Nat) < 256; decide, hsl⟩ rfl
      (by rw [hk]; rfl)]
    exact independentVerify_eq_true.mpr ⟨sth, hsth, hcs _ _⟩
  obtain ⟨m, hm⟩ := subtreeMessage_some c.name c.name hash cosigTime n.toNat hnlen hnlen.2 hco hh
  have hcos := cosig_verifies hparse hnlen hco hm (hcs c.witnessKey m)
  have htsx : sigTimestamp (NoteSig.encode { timestamp := time.toNat, hashAlg := 4, sigAlg := 3, signature := sign c.key sth }) = some time := by
    rw [sigTimestamp_encode _ (by show time.toNat ≤ _; omega)]
    exact congrArg some (Int.toNat_of_nonneg ht0)
  have hblob : injectedBlob time (4 :: 3 :: (toBE 2 (sign c.key sth).length ++ sign c.key sth)) =
      NoteSig.encode { timestamp := time.toNat, hashAlg := 4, sigAlg := 3, signature := sign c.key sth } := by
    rw [injectedBlob_eq, hut]
  generalize NoteSig.encode _ = blob at hver htsx hblob
  generalize hwe : toBE 8 cosigTime ++ sign c.witnessKey m = wsig at hcos
  have hsign := signTreeHead_eq grease swap (by rw [hun, hut]; exact hsth) hsl hblob hver hparse hnlen hm hwe
  -- the grease lines that remain are lines of unknown keys
  have hgunk : ∀ s ∈ (grease.filter fun s => !(s.name = c.name ∧ (s.hash = c.keyHash ∨ s.hash = c.witnessKeyHash))),
      [rfc6962Verifier cv c, cosigVerifier cv c].filter (fun v => v.name = s.name ∧ v.hash = s.hash) = [] := by
    intro s hs
    have hs2 := (List.mem_filter.mp hs).2
    simp only [Bool.not_eq_true', decide_eq_false_iff_not, not_and, not_or] at hs2
    refine List.filter_eq_nil_iff.mpr fun v hv hc => ?_
    obtain ⟨hn, hh⟩ : v.name = s.name ∧ v.hash = s.hash := by simpa using hc
    rcases List.mem_cons.mp hv with rfl | hv
    · exact (hs2 hn.symm).1 hh.symm
    · obtain rfl := List.mem_singleton.mp hv
      exact (hs2 hn.symm).2 hh.symm
  have hopen := openCheckpointWith_two (rfc6962Verifier cv c) (cosigVerifier cv c) c.name
    ⟨c.name, c.keyHash, blob⟩ ⟨c.name, c.witnessKeyHash, wsig⟩ swap
    hhash ⟨rfl, rfl⟩ ⟨rfl, rfl⟩ hver hcos hgunk (Nat.le_trans (List.length_filter_le _ _) hgl) htsx hparse hnow rfl rfl
  exact ⟨_, hsign, rfl, hopen,
    ⟨⟨c.name, c.keyHash, blob⟩, List.mem_append_right _ (by cases swap <;> simp), rfl, rfl, htsx, hver⟩,
    ⟨⟨c.name, c.witnessKeyHash, wsig⟩, List.mem_append_right _ (by cases swap <;> simp), rfl, rfl, hcos⟩⟩

theorem sign_opens (c : Config) (n time : Int) (hash : Bytes) (cosigTime : Nat) (grease : List SigLine) (swap : Bool)
    (now : Int) (pre : SignPre c n time hash cosigTime grease) (hnow : time ≤ now) :
    ∃ note, signTreeHead symCv symSign c n time hash cosigTime grease swap = some note ∧
      note.text = formatCheckpoint { origin := c.name, n := n, hash := hash, ext := [] } ∧
      openCheckpoint symCv c now note = .ok ({ origin := c.name, n := n, hash := hash, ext := [] }, time) ∧
      (∃ s ∈ note.sigs, s.name = c.name ∧ s.hash = c.keyHash ∧ sigTimestamp s.sig = some time ∧
        verifier symCv c.name c.key note.text s.sig = true) ∧
      (∃ s ∈ note.sigs, s.name = c.name ∧ s.hash = c.witnessKeyHash ∧
        cosigVerify symCv c.name c.witnessKey note.text s.sig = true) :=
  sign_opens_of_correct symCv symSign c n time hash cosigTime grease swap now symCv_self
    (fun m hm => by rw [symSign_length, hm]; have := pre.key_id; omega) pre hnow

end Checkpoint
