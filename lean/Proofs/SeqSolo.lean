import Proofs.SeqRecover2
/-! One live process at a time. C03's own quantifier is a single process dying and restarting: runs in
which at most one instance is not `down` at any moment (`ReachableSolo`). In such runs the proviso of
`recover_run_partial` is an invariant (`SoloInv.cks`): the checkpoint object has the lock
checkpoint's leaves, or the lock tree's bundle is still staged — a bundle is discarded only by the
process that has just published its tree, and nobody else can overwrite the checkpoint object in
between. Hence every crash state of such a run is recoverable (`recover_run_solo`). -/
namespace Seq

def Solo (s : Sys) : Prop := ∀ i j, (s.insts i).phase ≠ .down → (s.insts j).phase ≠ .down → i = j

inductive ReachableSolo : Sys → Prop
  | init (p : Nat) : ReachableSolo (init p)
  | step {s s' : Sys} {e : Ev} : ReachableSolo s → Seq.step s e = some s' → Solo s' → ReachableSolo s'

theorem solo_init (p : Nat) : Solo (init p) := fun _ _ hi _ => absurd rfl hi

theorem ReachableSolo.solo {s : Sys} (r : ReachableSolo s) : Solo s := by
  cases r with
  | init p => exact solo_init p
  | step _ _ hs => exact hs

theorem ReachableSolo.reachable {s : Sys} (r : ReachableSolo s) : Reachable s := by
  induction r with
  | init p => exact ⟨p, [], rfl⟩
  | step _ h _ ih => exact ih.step h

/-- What holds of a process because nobody interferes, against the three ways `SoloInv.cks` could break: who is
    about to swap the lock proposes the tree it holds or one whose bundle is staged; who is about to upload a
    checkpoint holds the lock value (`uploader_holds_lock`); who is about to discard a bundle has its tree in the
    checkpoint object. -/
def SoloOK (s : Sys) (x : Inst) : Prop :=
  match x.phase with
  | .creating (.ckptUpload c) => s.lock = some c
  | .round rd => (match rd.pc with
     | .cas => rd.new.leaves = x.tree.leaves ∨ Staged s.store rd.new.leaves
     | .tiles _ _ => s.lock = some x.tree
     | .ckpt => s.lock = some x.tree
     | .discard => s.store .ckpt = some (.ck rd.new, false)
     | _ => True)
  | _ => True

theorem soloOK_congr {s s' : Sys} {x x' : Inst} (hp : x'.phase = x.phase) (ht : x'.tree = x.tree)
    (hl : s'.lock = s.lock) (f3 : ∀ tr, Staged s.store tr → Staged s'.store tr)
    (hck : s'.store .ckpt = s.store .ckpt) (h : SoloOK s x) : SoloOK s' x' := by
  unfold SoloOK at *
  rw [hp]
  cases hph : x.phase with
  | creating pc => cases pc <;> simp_all
  | round rd =>
    simp only [hph] at h ⊢
    cases hpc : rd.pc <;> simp_all
    rcases h with h | h
    · exact Or.inl h
    · exact Or.inr (f3 _ h)
  | _ => simp_all

theorem soloOK_down {s : Sys} {x : Inst} (h : x.phase = .down) : SoloOK s x := by
  unfold SoloOK; rw [h]; trivial

section
attribute [local simp] setPhase Sys.setInst Sys.pushLock Sys.stored upd

theorem Step.down_frame {s s' : Sys} {e : Ev} {i : Nat} (hS : Step s e s') (he : e.inst = some i)
    (hd : (s.insts i).phase = .down) : s'.lock = s.lock ∧ s'.store = s.store := by
  -- every rule that writes the lock or the store names the phase it acts in, the issuer uploads through `isUp`
  cases hS <;> cases he <;> simp_all [isUp]

theorem Step.soloOK {s s' : Sys} {e : Ev} {i : Nat} (hS : Step s e s') (he : e.inst = some i)
    (hi : SoloOK s (s.insts i)) : SoloOK s' (s'.insts i) := by
  cases hS with
  | @uploadStaging _ rd items st' hph hpc hb hst =>
    cases he
    simpa [SoloOK] using Or.inr ⟨items, true, storeUpload_at hst Res.applied_ok⟩
  | @uploadCkpt _ rd st' hph hready hst =>
    cases he
    simpa [SoloOK] using storeUpload_at hst Res.applied_ok
  | uploadIssuer _ hst | uploadIssuerFail _ _ hst =>
    cases he
    exact soloOK_congr (s := s) (x := s.insts i) (by simp) (by simp) rfl
      (fun tr => Staged.upload hst (fun hk => nomatch hk)) (storeUpload_other hst (by simp)) hi
  | _ => cases he <;> simp_all [SoloOK, leavesOf]
end

structure SoloInv (s : Sys) : Prop where
  cks : ∀ c, s.lock = some c → ∀ c1 imm, s.store .ckpt = some (.ck c1, imm) →
    c1.leaves = c.leaves ∨ Staged s.store c.leaves
  inst : ∀ i, SoloOK s (s.insts i)

theorem soloInv_init (p : Nat) : SoloInv (init p) :=
  ⟨fun c h => by simp [init] at h, fun i => by simp [init, SoloOK]⟩

theorem SoloInv.uploader_holds_lock {s : Sys} (hs : SoloInv s) (h1 : Inv s) {i : Nat} {c : Ck}
    (hwho : (s.insts i).phase = .creating (.ckptUpload c) ∨
      ∃ rd, (s.insts i).phase = .round rd ∧ rd.new = c ∧
        (rd.pc = .ckpt ∨ ∃ done, rd.pc = .tiles done false ∧ ∀ t ∈ rd.bundle, t ∈ done)) : s.lock = some c := by
  have hso := hs.inst i
  have hio := h1.inst i
  rcases hwho with hph | ⟨rd, hph, rfl, hpc | ⟨_, hpc, _⟩⟩
  · simpa only [SoloOK, hph] using hso
  all_goals
    simp only [SoloOK, hph, hpc] at hso
    simp only [InstOK, RoundOK, hph, hpc] at hio
    rw [hso, hio.2]

theorem soloInv_step (s s' : Sys) (e : Ev) (hsolo : Solo s) (hs : SoloInv s) (h1 : Inv s) (h3 : Inv3 s)
    (h : step s e = some s') (ht : s'.tampered = false) : SoloInv s' := by
  have hS := step_sound h
  have hnt := (hS.tampered ht).2
  refine ⟨fun c hl c1 imm hck => ?_, fun j => ?_⟩
  · cases hS.lock_cases with
    | same hl0 =>
      rw [hl0] at hl
      cases hS.pub_cases with
      | same _ hck' =>
        rcases hck' with hsame | ⟨k, o, rfl⟩
        · -- lock and checkpoint object as before: a bundle goes only when its tree is the checkpoint object
          rcases hs.cks c hl c1 imm (hsame ▸ hck) with a | a
          · exact .inl a
          · rcases hS.staged ht a with a' | ⟨i, rd, hph, hpc, hrd⟩
            · exact .inr a'
            · have hsi := hs.inst i
              simp only [SoloOK, hph, hpc] at hsi
              rw [hsame, hsi] at hck; cases hck
              exact .inl hrd
        · exact absurd rfl (hnt k o)
      | publish _ hck' hwho =>
        -- the new checkpoint object is the lock checkpoint
        rw [hck'] at hck; cases hck
        rw [hs.uploader_holds_lock h1 hwho] at hl; cases hl
        exact .inl rfl
    | @commit i c' _ hl' _ hst hwho =>
      rw [hl'] at hl; cases hl
      rw [hst] at hck ⊢
      rcases hwho with ⟨_, hnone⟩ | ⟨rd, hph, hpc, rfl, hold⟩
      · -- nothing was ever published while there is no lock
        have := h1.pub c1 (h3.ckpt c1 imm hck)
        rw [List.head?_eq_none_iff.1 (h1.head.trans hnone)] at this; cases this
      · have hsi := hs.inst i
        simp only [SoloOK, hph, hpc] at hsi
        rcases hsi with hsame | hst
        · rw [hsame]; exact hs.cks _ hold c1 imm hck
        · exact .inr hst
  · cases he : e.inst with
    | none =>
      obtain ⟨k, o, rfl⟩ := inst_none_tamper e he
      exact absurd rfl (hnt k o)
    | some i =>
      by_cases hji : j = i
      · subst hji; exact hS.soloOK he (hs.inst j)
      · have hoth := hS.others (j := j) (by simp [he, Ne.symm hji])
        by_cases hd : (s.insts j).phase = .down
        · exact soloOK_down (by rw [hoth]; exact hd)
        · -- the acting process is the one that is down
          have hid : (s.insts i).phase = .down := Classical.byContradiction fun hi => hji (hsolo i j hi hd).symm
          obtain ⟨hl, hst⟩ := hS.down_frame he hid
          exact soloOK_congr (by rw [hoth]) (by rw [hoth]) hl (by rw [hst]; exact fun _ h => h) (by rw [hst]) (hs.inst j)

theorem soloInv_reachable {s : Sys} (r : ReachableSolo s) (ht : s.tampered = false) : SoloInv s := by
  induction r with
  | init p => exact soloInv_init p
  | @step s0 s1 e r0 h _ ih =>
    have ht0 := ((step_sound h).tampered ht).1
    exact soloInv_step s0 s1 e r0.solo (ih ht0) (inv_reachable r0.reachable) (inv3_reachable r0.reachable ht0) h ht

/-! ### recovery in single-process runs -/

theorem ReachableSolo.run_inst {s s' : Sys} {i : Nat} {es : List Ev} (r : ReachableSolo s)
    (hd : ∀ j, j ≠ i → (s.insts j).phase = .down) (he : ∀ e ∈ es, e.inst = some i)
    (h : run s es = some s') : ReachableSolo s' := by
  induction es generalizing s with
  | nil => cases h; exact r
  | cons e es ih =>
    obtain ⟨s1, hs1, h⟩ := run_cons.1 h
    have hei := he e List.mem_cons_self
    have hd1 : ∀ j, j ≠ i → (s1.insts j).phase = .down := by
      intro j hj
      rw [(step_sound hs1).others (by simp [hei, Ne.symm hj])]
      exact hd j hj
    have hsolo1 : Solo s1 := by
      intro a b ha hb
      have ha' : a = i := Classical.byContradiction fun hn => ha (hd1 a hn)
      have hb' : b = i := Classical.byContradiction fun hn => hb (hd1 b hn)
      rw [ha', hb']
    exact ih (r.step hs1 hsolo1) hd1 (fun e' he' => he e' (List.mem_cons_of_mem _ he')) h

theorem applyEvs_inst (i : Nat) : ∀ (n : Nat) (rem : List (TileId × Tree)), ∀ e ∈ applyEvs i n rem, e.inst = some i := by
  intro n
  induction n with
  | zero => intro rem e he; simp [applyEvs] at he
  | succ n ih =>
    intro rem e he
    cases rem with
    | nil => simp [applyEvs] at he
    | cons p rest =>
      obtain ⟨t, xs⟩ := p
      simp only [applyEvs, List.mem_cons] at he
      rcases he with rfl | he
      · rfl
      · exact ih _ e he

theorem recoverScript_inst (i : Nat) (c c1 : Ck) (v : Nat) (items : Option (List (TileId × Tree))) (ts : List TileId) :
    ∀ e ∈ recoverScript i c c1 v items ts, e.inst = some i := by
  intro e he
  simp only [recoverScript, List.mem_append, List.mem_cons, edgeEvs, List.mem_map,
    List.not_mem_nil, or_false] at he
  rcases he with ((he | he) | ⟨t, _, rfl⟩) | rfl
  · rcases he with rfl | rfl | rfl | rfl | rfl <;> rfl
  · cases items with
    | none => simp at he
    | some items =>
      simp only [List.mem_append, List.mem_cons, List.not_mem_nil, or_false] at he
      rcases he with (rfl | rfl) | he
      · rfl
      · rfl
      · exact applyEvs_inst i _ _ e he
  · rfl
  · rfl

/-- C03, liveness half: `recover_run_of_ckpt_or_staged` with its proviso discharged by `SoloInv.cks`. By the
    last clause the statement applies again to the state the recovery ends in and to its successors. -/
theorem recover_run_solo {s : Sys} (r : ReachableSolo s) (ht : s.tampered = false) (i : Nat) (c : Ck) (v : Nat)
    (hl : s.lock = some c) (hpub : s.pubHist ≠ [])
    (hdown : (s.insts i).phase = .down) (hcfg : (s.insts i).cfgBad = false) (hv : c.time ≤ v)
    (ts : List TileId) (hts : ∀ t ∈ ts, Req c.leaves.length t = true ∧ t.kind.level < 8) :
    ∃ es s', run s es = some s' ∧ (s'.insts i).phase = .idle ∧ (s'.insts i).tree = c ∧
      Complete s'.store c.leaves ∧ s'.lock = some c ∧ s'.lockHist = s.lockHist ∧ s'.pubHist = s.pubHist ∧
      s'.tampered = false ∧ (∀ j, j ≠ i → s'.insts j = s.insts j) ∧
      es.head? = some (.launchLoad i) ∧ es.getLast? = some (.loaded i c) ∧
      (∀ t ∈ ts, Ev.fetch i (.tile t) (.ok (.slice (t.slice c.leaves))) ∈ es) ∧
      (∃ s'', step s' (.launchRound i) = some s'') ∧
      ((∀ j, j ≠ i → (s.insts j).phase = .down) → ReachableSolo s') := by
  have hcs := (soloInv_reachable r ht).cks c hl
  obtain ⟨s', c1, items, hscript, hrun, hph, htree, hev, hcomp, fr⟩ :=
    recover_run_partial r.reachable ht i c v hl hpub hdown hcfg hv hcs ts hts
  refine ⟨recoverEvs s i c v ts, s', hrun, hph, htree, hcomp, fr.lock.trans hl, fr.lockHist, fr.pubHist,
    fr.tampered.trans ht, fr.others, ?_, ?_, ?_, can_launch_round hph hev, ?_⟩
  · rw [hscript]; exact recoverScript_head _ _ _ _ _ _
  · rw [hscript]; exact recoverScript_last _ _ _ _ _ _
  · rw [hscript]; exact recoverScript_edge _ _ _ _ _ _
  · intro hd
    exact r.run_inst hd (by rw [hscript]; exact recoverScript_inst _ _ _ _ _ _) hrun

theorem reachableSolo_crash {s : Sys} (r : ReachableSolo s) (i : Nat) :
    ∃ s', Seq.step s (.crash i) = some s' ∧ ReachableSolo s' ∧ (s'.insts i).phase = .down ∧
      (s'.insts i).cfgBad = (s.insts i).cfgBad ∧ s'.lock = s.lock ∧ s'.pubHist = s.pubHist ∧
      s'.store = s.store ∧ s'.tampered = s.tampered ∧ (∀ j, j ≠ i → s'.insts j = s.insts j) := by
  have hstep : Seq.step s (.crash i) = some (s.setInst i { s.insts i with phase := .down, pool := [], poolEvicted := [], evictPending := false }) := rfl
  refine ⟨_, hstep, ?_, by simp [Sys.setInst, upd], by simp [Sys.setInst, upd], rfl, rfl, rfl, rfl, ?_⟩
  · refine r.step hstep ?_
    intro a b ha hb
    have hsolo := r.solo
    by_cases hai : a = i
    · subst hai; simp [Sys.setInst, upd] at ha
    · by_cases hbi : b = i
      · subst hbi; simp [Sys.setInst, upd] at hb
      · simp only [Sys.setInst, upd, hai, hbi, if_false] at ha hb
        exact hsolo a b ha hb
  · intro j hj; simp [Sys.setInst, upd, hj]

end Seq
