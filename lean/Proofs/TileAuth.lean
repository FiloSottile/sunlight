import Model.TileAuth
import Proofs.Merkle
/-! Soundness of hash-tile authentication (Model/TileAuth.lean), for all tree sizes and tile levels, from `NodeInj` alone.

Tiles compose (`mth_items_eq`): for a block size that is a power of two, the RFC 6962 hash of a leaf list is the
RFC 6962 hash of the list of its block hashes (full blocks, then the shorter last block). What is said about a single
tile follows from that and from `tileOf_eq_map`: entry `j` of the authentic tile `(L, N)` is the hash of block
`N * 256 + j` of `256^L` leaves. On the right edge, a step of the recombination is `optMth` of this level's entries
followed by what the lower levels hash to (`edgeStep_eq`), and on the authentic side that is `optMth` of the leaves
beyond the last full block of the next level (`optMth_Rr_succ`); the two lists have the same length, so `mth_inj` peels
one level off (`edgeF_sound`). -/
namespace TileAuth
open Merkle
variable {H : Type} (node : H → H → H) (empty : H)

/-- for a power of two `s` below `n`, the RFC 6962 split point of `n` is a multiple of `s`, and dividing by `s`
    gives the split point of the number of blocks -/
theorem split_blocks {k n : Nat} (h : 2 ^ k < n) :
    ∃ j, k ≤ j ∧ split n = 2 ^ k * 2 ^ (j - k) ∧ split ((n + 2 ^ k - 1) / 2 ^ k) = 2 ^ (j - k) := by
  have hs : 0 < 2 ^ k := Nat.pow_pos (by decide)
  have hlo : 2 ^ (n - 1).log2 ≤ n - 1 := Nat.log2_self_le (by omega)
  have hhi : n - 1 < 2 ^ ((n - 1).log2 + 1) := Nat.lt_log2_self
  have hk : k ≤ (n - 1).log2 := by
    apply Decidable.byContradiction
    intro hk
    have : 2 ^ ((n - 1).log2 + 1) ≤ 2 ^ k := Nat.pow_le_pow_right (by decide) (by omega)
    omega
  have e1 : 2 ^ (n - 1).log2 = 2 ^ ((n - 1).log2 - k) * 2 ^ k := by
    rw [← Nat.pow_add, Nat.sub_add_cancel hk]
  have e2 : 2 ^ ((n - 1).log2 + 1) = 2 ^ ((n - 1).log2 - k + 1) * 2 ^ k := by
    rw [← Nat.pow_add]; congr 1; omega
  refine ⟨(n - 1).log2, hk, by rw [Nat.mul_comm, ← e1]; rfl, split_unique ?_ ?_⟩
  · rw [Nat.lt_div_iff_mul_lt hs, ← e1]
    omega
  · apply Nat.le_of_lt_succ
    rw [Nat.div_lt_iff_lt_mul hs, Nat.succ_mul, ← e2]
    omega

/-- the tree hash of a possibly empty list, as the recombination carries it from level to level -/
def optMth (X : List H) : Option H := if X = [] then none else some (mth node empty X)

theorem optMth_of_ne {X : List H} (h : X ≠ []) : optMth node empty X = some (mth node empty X) := if_neg h

theorem items_of_le {s : Nat} {B : List H} (h : B.length ≤ s) :
    items node empty s B = (optMth node empty B).toList := by
  rw [items, dif_pos (Or.inr h)]
  unfold optMth
  split <;> rfl

theorem items_nil (s : Nat) : items node empty s ([] : List H) = [] :=
  items_of_le node empty (Nat.zero_le s)

theorem items_cons {s : Nat} (h0 : 0 < s) {X : List H} (hX : s ≤ X.length) :
    items node empty s X = mth node empty (X.take s) :: items node empty s (X.drop s) := by
  by_cases hbig : s < X.length
  · rw [items, dif_neg (by omega)]
  · -- exactly one block
    have hne : X ≠ [] := by intro h; subst h; simp at hX; omega
    rw [items_of_le node empty (by omega), List.drop_eq_nil_of_le (by omega), List.take_of_length_le (by omega),
      items_nil, optMth_of_ne node empty hne]
    rfl

theorem items_ne_nil {s : Nat} {X : List H} (h : X ≠ []) : items node empty s X ≠ [] := by
  rw [items]
  split <;> exact List.cons_ne_nil _ _

theorem items_length {s : Nat} (h0 : 0 < s) (B : List H) :
    (items node empty s B).length = (B.length + s - 1) / s := by
  induction B using items.induct (s := s) with
  | case1 => rw [items_nil]; exact (Nat.div_eq_of_lt (by simp; omega)).symm
  | case2 B h hne =>
    have := List.length_pos_iff.2 hne
    rw [items_of_le node empty (by omega), optMth_of_ne node empty hne, eq_comm]
    apply Nat.div_eq_of_lt_le <;> simp <;> omega
  | case3 B h ih =>
    rw [items_cons node empty h0 (by omega), List.length_cons, ih, List.length_drop, ← Nat.add_div_right _ h0]
    congr 1
    omega

theorem items_append {s : Nat} (h0 : 0 < s) {p : Nat} {A : List H} (C : List H) (hA : A.length = p * s) :
    items node empty s (A ++ C) = items node empty s A ++ items node empty s C := by
  induction p generalizing A with
  | zero =>
    obtain rfl : A = [] := List.length_eq_zero_iff.1 (by simpa using hA)
    rw [items_nil]; rfl
  | succ p ih =>
    have hAs : s ≤ A.length := by rw [hA, Nat.succ_mul]; omega
    rw [items_cons node empty h0 (by rw [List.length_append]; omega), items_cons node empty h0 hAs,
      List.take_append_of_le_length hAs, List.drop_append_of_le_length hAs,
      ih (by rw [List.length_drop, hA, Nat.succ_mul]; omega)]
    rfl

theorem items_eq_map {s : Nat} (h0 : 0 < s) {q : Nat} {X : List H} (hX : X.length = q * s) :
    items node empty s X = (List.range q).map (fun j => mth node empty (rng X (j * s) ((j + 1) * s))) := by
  induction q generalizing X with
  | zero =>
    obtain rfl : X = [] := List.length_eq_zero_iff.1 (by simpa using hX)
    rw [items_nil]; rfl
  | succ q ih =>
    have hs : s ≤ X.length := by rw [hX, Nat.succ_mul]; omega
    rw [items_cons node empty h0 hs, ih (by rw [List.length_drop, hX, Nat.succ_mul]; omega),
      List.range_succ_eq_map, List.map_cons, List.map_map]
    congr 1
    · rw [Nat.zero_mul, Nat.zero_add, Nat.one_mul, rng_zero]
    · apply List.map_congr_left
      intro j _
      show mth node empty (rng (X.drop s) _ _) = mth node empty (rng X ((j + 1) * s) ((j + 1 + 1) * s))
      rw [rng_of_drop, Nat.add_comm s, ← Nat.succ_mul, Nat.add_comm s, ← Nat.succ_mul]

/-! ### tiles compose -/

theorem mth_items_eq (k : Nat) (B : List H) :
    mth node empty (items node empty (2 ^ k) B) = mth node empty B := by
  have hs : 0 < 2 ^ k := Nat.pow_pos (by decide)
  induction B using mth_induction with
  | nil => rw [items_nil]
  | one x => rw [items_of_le node empty hs, optMth_of_ne node empty (by simp)]; exact mth_singleton ..
  | step B h2 ihL ihR =>
    by_cases hle : B.length ≤ 2 ^ k
    · rw [items_of_le node empty hle, optMth_of_ne node empty (by intro h; subst h; simp at h2)]
      exact mth_singleton ..
    · -- the left subtree of `B` is made of `2^(j-k)` full blocks, and the block hashes split there too
      obtain ⟨j, _, hsplit, hsplitm⟩ := split_blocks (Nat.lt_of_not_le hle)
      have hlt := split_lt h2
      have hL : (B.take (split B.length)).length = 2 ^ (j - k) * 2 ^ k := by
        rw [List.length_take, Nat.min_eq_left (by omega), hsplit, Nat.mul_comm]
      have hlenL : (items node empty (2 ^ k) (B.take (split B.length))).length = 2 ^ (j - k) := by
        rw [items_eq_map node empty hs hL, List.length_map, List.length_range]
      have hdecomp := items_append node empty hs (B.drop (split B.length)) hL
      rw [List.take_append_drop] at hdecomp
      have hm2 : 2 ≤ (items node empty (2 ^ k) B).length := by
        rw [items_length node empty hs, Nat.le_div_iff_mul_le hs]
        omega
      rw [mth_unfold node empty _ hm2, items_length node empty hs, hsplitm, hdecomp,
        List.take_left' hlenL, List.drop_left' hlenL, ihL, ihR, ← mth_unfold node empty B h2]

theorem mth_items (k : Nat) : ∀ (n : Nat) (B : List H), B.length = n →
    mth node empty (items node empty (2 ^ k) B) = mth node empty B :=
  fun _ B _ => mth_items_eq node empty k B

theorem level_exact {s : Nat} (h0 : 0 < s) {q : Nat} {X : List H} (hX : X.length = q * s) :
    level node empty s X = items node empty s X := by
  unfold level
  apply List.take_of_length_le
  rw [items_eq_map node empty h0 hX, List.length_map, List.length_range, hX, Nat.mul_div_cancel _ h0]
  exact Nat.le_refl q

theorem level_one (X : List H) : level node empty 1 X = X := by
  have hX : X.length = X.length * 1 := (Nat.mul_one _).symm
  rw [level_exact node empty Nat.one_pos hX, items_eq_map node empty Nat.one_pos hX]
  apply List.ext_getElem (by simp)
  intro i h1 h2
  simp [rng_singleton X h2, mth_singleton]

/-! ### windows and tiles -/

/-- the leaves a tile at level `L`, index `N`, width `W` is computed from -/
def win (B : List H) (L N W : Nat) : List H := rng B (N * 256 * 256 ^ L) ((N * 256 + W) * 256 ^ L)

/-- the authentic content of the tile at level `L`, index `N`, width `W`: the hashes of its `W` blocks -/
def tileOf (B : List H) (L N W : Nat) : List H := level node empty (256 ^ L) (win B L N W)

theorem pow256 (L : Nat) : 256 ^ L = 2 ^ (8 * L) := by
  rw [Nat.pow_mul]

theorem win_length (B : List H) {L N W : Nat} (h : (N * 256 + W) * 256 ^ L ≤ B.length) :
    (win B L N W).length = W * 256 ^ L := by
  unfold win
  rw [rng_length B h (Nat.mul_le_mul_right _ (Nat.le_add_right _ _)), Nat.add_mul, Nat.add_sub_cancel_left]

theorem tileOf_eq_items (B : List H) {L N W : Nat} (h : (N * 256 + W) * 256 ^ L ≤ B.length) :
    tileOf node empty B L N W = items node empty (256 ^ L) (win B L N W) :=
  level_exact node empty (Nat.pow_pos (by decide)) (win_length B h)

theorem tileOf_eq_map (B : List H) {L N W : Nat} (h : (N * 256 + W) * 256 ^ L ≤ B.length) :
    tileOf node empty B L N W = (List.range W).map fun j =>
      mth node empty (rng B ((N * 256 + j) * 256 ^ L) ((N * 256 + j + 1) * 256 ^ L)) := by
  rw [tileOf_eq_items node empty B h, items_eq_map node empty (Nat.pow_pos (by decide)) (win_length B h)]
  apply List.map_congr_left
  intro j hj
  have hj' : N * 256 * 256 ^ L + (j + 1) * 256 ^ L ≤ (N * 256 + W) * 256 ^ L := by
    rw [← Nat.add_mul]
    exact Nat.mul_le_mul_right _ (Nat.add_le_add_left (List.mem_range.1 hj) _)
  unfold win
  rw [rng_rng B hj', ← Nat.add_mul, ← Nat.add_mul, Nat.add_assoc]

theorem tileOf_length (B : List H) {L N W : Nat} (h : (N * 256 + W) * 256 ^ L ≤ B.length) :
    (tileOf node empty B L N W).length = W := by
  rw [tileOf_eq_map node empty B h, List.length_map, List.length_range]

theorem tileOf_zero (B : List H) (N W : Nat) : tileOf node empty B 0 N W = rng B (N * 256) (N * 256 + W) := by
  unfold tileOf win
  simp only [Nat.pow_zero, Nat.mul_one]
  exact level_one node empty _

theorem tileOf_entry (B : List H) {L N W j : Nat} (h : (N * 256 + W) * 256 ^ (L + 1) ≤ B.length) (hj : j < W) :
    (tileOf node empty B (L + 1) N W)[j]? = some (mth node empty (win B L (N * 256 + j) 256)) := by
  rw [tileOf_eq_map node empty B h, List.getElem?_map, List.getElem?_range hj, Option.map_some]
  -- block `M` of `256^(L+1)` leaves is the window of the 256 blocks `M * 256 …` of `256^L` leaves
  unfold win
  rw [Nat.pow_succ, Nat.mul_comm (256 ^ L), ← Nat.mul_assoc, ← Nat.mul_assoc, Nat.succ_mul]

theorem mth_tileOf (B : List H) {L N W : Nat} (h : (N * 256 + W) * 256 ^ L ≤ B.length) :
    mth node empty (tileOf node empty B L N W) = mth node empty (win B L N W) := by
  rw [tileOf_eq_items node empty B h, pow256, mth_items_eq]

/-- `h` is what the comparison with the authentic parent entry gives (`tileOf_entry`) -/
theorem child_sound (inj : NodeInj node) (B : List H) {L N : Nat} (es : List H)
    (hb : (N * 256 + 256) * 256 ^ L ≤ B.length) (hl : es.length = 256)
    (h : mth node empty es = mth node empty (win B L N 256)) : es = tileOf node empty B L N 256 :=
  mth_inj node empty inj _ _ (by rw [hl, tileOf_length node empty B hb])
    (h.trans (mth_tileOf node empty B hb).symm)

/-! ### the right edge -/

/-- the leaves beyond the last full block of `256^L` leaves -/
def Rr (B : List H) (L : Nat) : List H := remainder (256 ^ L) B

/-- the recombination of the edge tiles of levels `0 … L-1` (level 0 first): the recursion of `edgeFx` in
    Model/TileAuth.lean (`edgeFx_eq`); the statements here name this one, except the inversion `readLeafHash_inv` -/
def edgeF (e : Nat → List H) : Nat → Option H
  | 0 => none
  | L + 1 => edgeStep node empty (edgeF e L) (e L)

theorem edgeStep_eq (acc : Option H) (es : List H) :
    edgeStep node empty acc es = optMth node empty (es ++ acc.toList) := rfl

theorem optMth_isSome (X : List H) : (optMth node empty X).isSome = true ↔ X ≠ [] := by
  unfold optMth
  by_cases h : X = [] <;> simp [h]

variable {node empty} in
theorem optMth_inj (inj : NodeInj node) {a b : List H} (hl : a.length = b.length)
    (h : optMth node empty a = optMth node empty b) : a = b := by
  by_cases ha : a = []
  · subst ha
    exact (List.length_eq_zero_iff.1 hl.symm).symm
  · have hb : b ≠ [] := fun hb => ha (List.length_eq_zero_iff.1 (by rw [hl, hb]; rfl))
    rw [optMth_of_ne node empty ha, optMth_of_ne node empty hb] at h
    exact mth_inj node empty inj a b hl (Option.some.inj h)

theorem optMth_items (k : Nat) (X : List H) :
    optMth node empty (items node empty (2 ^ k) X) = optMth node empty X := by
  by_cases h : X = []
  · rw [h, items_nil]
  · rw [optMth_of_ne node empty (items_ne_nil node empty h), optMth_of_ne node empty h, mth_items_eq]

theorem toList_inj {α : Type} {a b : Option α} (h : a.toList = b.toList) : a = b := by
  cases a <;> cases b <;> cases h <;> rfl

theorem Rr_length (B : List H) (L : Nat) : (Rr B L).length = B.length % 256 ^ L := by
  unfold Rr remainder
  rw [List.length_drop, Nat.mul_comm, Nat.mod_def]

theorem Rr_ne_nil (B : List H) (L : Nat) : Rr B L ≠ [] ↔ B.length % 256 ^ L ≠ 0 := by
  rw [← Rr_length, Ne, Ne, List.length_eq_zero_iff]

theorem Rr_zero (B : List H) : Rr B 0 = [] :=
  List.length_eq_zero_iff.1 (by rw [Rr_length, Nat.pow_zero, Nat.mod_one])

theorem Rr_top (B : List H) {L : Nat} (h : B.length < 256 ^ L) : Rr B L = B := by
  unfold Rr remainder
  rw [Nat.div_eq_of_lt h, Nat.zero_mul, List.drop_zero]

theorem mod_succ_eq_zero (n L : Nat) : n % 256 ^ (L + 1) = 0 ↔ edgeWidth n L = 0 ∧ n % 256 ^ L = 0 := by
  rw [Nat.mod_pow_succ, Nat.add_eq_zero_iff, Nat.mul_eq_zero, and_comm]
  unfold edgeWidth
  omega

theorem edge_end (n L : Nat) : n / 256 ^ L / 256 * 256 + edgeWidth n L = n / 256 ^ L := by
  unfold edgeWidth
  rw [Nat.mul_comm]
  exact Nat.div_add_mod _ _

theorem edge_bound (B : List H) (L : Nat) :
    (B.length / 256 ^ L / 256 * 256 + edgeWidth B.length L) * 256 ^ L ≤ B.length := by
  rw [edge_end]
  exact Nat.div_mul_le_self _ _

theorem drop_split (B : List H) {a b : Nat} (hab : a ≤ b) : B.drop a = rng B a b ++ B.drop b := by
  unfold rng
  rw [← Nat.add_sub_cancel' hab, ← List.drop_drop, Nat.add_sub_cancel' hab, List.take_append_drop]

theorem Rr_succ (B : List H) (L : Nat) :
    Rr B (L + 1) = win B L (B.length / 256 ^ L / 256) (edgeWidth B.length L) ++ Rr B L := by
  unfold Rr remainder win
  rw [edge_end, Nat.pow_succ, ← Nat.div_div_eq_div_mul, Nat.mul_comm (256 ^ L) 256, ← Nat.mul_assoc]
  exact drop_split B (Nat.mul_le_mul_right _ (Nat.div_mul_le_self _ _))

theorem optMth_Rr_succ (B : List H) (L : Nat) :
    optMth node empty (Rr B (L + 1)) = edgeStep node empty (optMth node empty (Rr B L))
      (tileOf node empty B L (B.length / 256 ^ L / 256) (edgeWidth B.length L)) := by
  have hs : 0 < 256 ^ L := Nat.pow_pos (by decide)
  rw [← optMth_items node empty (8 * L), ← pow256, Rr_succ,
    items_append node empty hs _ (win_length B (edge_bound B L)),
    ← tileOf_eq_items node empty B (edge_bound B L),
    items_of_le node empty (by rw [Rr_length]; exact Nat.le_of_lt (Nat.mod_lt _ hs))]
  rfl

theorem edgeF_isSome (B : List H) (e : Nat → List H) :
    ∀ L, (∀ j, j < L → (e j).length = edgeWidth B.length j) →
      ((edgeF node empty e L).isSome = true ↔ B.length % 256 ^ L ≠ 0) := by
  intro L
  induction L with
  | zero => intro _; simp [edgeF, Nat.mod_one]
  | succ L ih =>
    intro hw
    have ih' : edgeF node empty e L = none ↔ B.length % 256 ^ L = 0 := by
      rw [← Option.not_isSome_iff_eq_none, ih fun j hj => hw j (Nat.lt_succ_of_lt hj), Decidable.not_not]
    rw [edgeF, edgeStep_eq, optMth_isSome, Ne, List.append_eq_nil_iff, Option.toList_eq_nil_iff,
      ← List.length_eq_zero_iff, hw L (Nat.lt_succ_self L), Ne, mod_succ_eq_zero, ih']

theorem edgeF_sound (inj : NodeInj node) (B : List H) (e : Nat → List H) :
    ∀ L, (∀ j, j < L → (e j).length = edgeWidth B.length j) →
      edgeF node empty e L = optMth node empty (Rr B L) →
      ∀ j, j < L → e j = tileOf node empty B j (B.length / 256 ^ j / 256) (edgeWidth B.length j) := by
  intro L
  induction L with
  | zero => intro _ _ j hj; omega
  | succ L ih =>
    intro hw hF j hj
    have hw' : ∀ j, j < L → (e j).length = edgeWidth B.length j := fun j hj => hw j (Nat.lt_succ_of_lt hj)
    have hwL : (e L).length = (tileOf node empty B L (B.length / 256 ^ L / 256) (edgeWidth B.length L)).length := by
      rw [hw L (Nat.lt_succ_self L), tileOf_length node empty B (edge_bound B L)]
    -- something lies below level `L` on both sides or on neither, so the two item lists have the same length
    have hlen : (edgeF node empty e L).toList.length = (optMth node empty (Rr B L)).toList.length := by
      rw [Option.length_toList, Option.length_toList]
      congr 1
      exact propext ((edgeF_isSome node empty B e L hw').trans
        ((Rr_ne_nil B L).symm.trans (optMth_isSome node empty _).symm))
    rw [edgeF, edgeStep_eq, optMth_Rr_succ, edgeStep_eq] at hF
    obtain ⟨h1, h2⟩ := List.append_inj
      (optMth_inj inj (by rw [List.length_append, List.length_append, hwL, hlen]) hF) hwL
    by_cases hjl : j = L
    · rw [hjl]; exact h1
    · exact ih hw' (toList_inj h2) j (by omega)

theorem edge_sound (inj : NodeInj node) (B : List H) (e : Nat → List H) (T : Nat)
    (hn : B ≠ []) (hT : B.length < 256 ^ T)
    (hw : ∀ j, j < T → (e j).length = edgeWidth B.length j)
    (hroot : edgeF node empty e T = some (mth node empty B)) :
    ∀ j, j < T → e j = tileOf node empty B j (B.length / 256 ^ j / 256) (edgeWidth B.length j) :=
  edgeF_sound node empty inj B e T hw (by rw [hroot, Rr_top B hT, optMth_of_ne node empty hn])

/-! ### what the checks of `ReadHashes` establish -/

/-- The tiles `tlog.TileHashReader.ReadHashes` is written to return hashes from: a right-edge tile (authenticated by the
    recombination to the root), or a full tile that hashes to its entry in a tile established before it
    ("authenticate full tiles against their parents", walking up until a tile already requested). At the pinned
    version some of those parent comparisons are not made (finding F10, at the end of this file). -/
inductive Verified (n : Nat) (e : Nat → List H) : Nat → Nat → List H → Prop
  | edge (L : Nat) : Verified n e L (n / 256 ^ L / 256) (e L)
  | child (L N : Nat) (es pes : List H) : Verified n e (L + 1) (N / 256) pes → es.length = 256 →
      pes[N % 256]? = some (tileHash node empty es) → Verified n e L N es

theorem edgeWidth_top {n T L : Nat} (hT : n < 256 ^ T) (hL : T ≤ L) : edgeWidth n L = 0 := by
  unfold edgeWidth
  rw [Nat.div_eq_of_lt (Nat.lt_of_lt_of_le hT (Nat.pow_le_pow_right (by decide) hL)), Nat.zero_mod]

/-- a full tile with an entry in a parent tile that lies inside the tree lies inside the tree -/
theorem child_bound {n L N W : Nat} (hb : (N / 256 * 256 + W) * 256 ^ (L + 1) ≤ n) (hN : N % 256 < W) :
    (N * 256 + 256) * 256 ^ L ≤ n := by
  have h1 : N + 1 ≤ N / 256 * 256 + W := by have := Nat.div_add_mod' N 256; omega
  have h2 : (N * 256 + 256) * 256 ^ L = (N + 1) * 256 ^ (L + 1) := by
    rw [Nat.pow_succ, Nat.mul_comm (256 ^ L), ← Nat.mul_assoc, Nat.add_mul N 1 256, Nat.one_mul]
  rw [h2]
  exact Nat.le_trans (Nat.mul_le_mul_right _ h1) hb

/-- What the two checks of `tlog.TileHashReader.ReadHashes` establish when both are made: every tile it then reads a
    hash from is the authentic one and lies inside the tree. -/
theorem verified_sound (inj : NodeInj node) (B : List H) (e : Nat → List H) (T : Nat)
    (hn : B ≠ []) (hT : B.length < 256 ^ T)
    (hw : ∀ j, (e j).length = edgeWidth B.length j)
    (hroot : edgeF node empty e T = some (mth node empty B))
    {L N : Nat} {es : List H} (hv : Verified node empty B.length e L N es) :
    es = tileOf node empty B L N es.length ∧ (N * 256 + es.length) * 256 ^ L ≤ B.length := by
  induction hv with
  | edge L =>
    rw [hw L]
    refine ⟨?_, edge_bound B L⟩
    by_cases hL : L < T
    · exact edge_sound node empty inj B e T hn hT (fun j _ => hw j) hroot L hL
    · -- above the top level both are empty
      have hW := edgeWidth_top hT (Nat.le_of_not_lt hL)
      rw [List.length_eq_zero_iff.1 ((hw L).trans hW),
        List.length_eq_zero_iff.1 ((tileOf_length node empty B (edge_bound B L)).trans hW)]
  | child L N es pes _ hl hp ih =>
    obtain ⟨hpes, hbound⟩ := ih
    have hidx : N % 256 < pes.length := (List.getElem?_eq_some_iff.1 hp).1
    have hb := child_bound hbound hidx
    rw [hpes, tileOf_entry node empty B hbound hidx, Nat.div_add_mod'] at hp
    rw [hl]
    exact ⟨child_sound node empty inj B es hb hl (Option.some.inj hp).symm, hb⟩

/-- The contract `tlog.TileHashReader` documents ("any hashes returned by the HashReader are already proven to be in
    the tree"), at level 0; the client (C12) and `LoadLog` (C08) build on it. The pinned implementation falls short of
    it (finding F10, at the end of this file). -/
theorem verified_leaf_hashes (inj : NodeInj node) (B : List H) (e : Nat → List H) (T : Nat)
    (hn : B ≠ []) (hT : B.length < 256 ^ T)
    (hw : ∀ j, (e j).length = edgeWidth B.length j)
    (hroot : edgeF node empty e T = some (mth node empty B))
    {N : Nat} {es : List H} (hv : Verified node empty B.length e 0 N es) :
    ∀ k h, es[k]? = some h → B[N * 256 + k]? = some h := by
  obtain ⟨h1, _⟩ := verified_sound node empty inj B e T hn hT hw hroot hv
  intro k h hk
  have hkl : k < es.length := (List.getElem?_eq_some_iff.1 hk).1
  rwa [h1, tileOf_zero, getElem?_rng B (by omega)] at hk

/-! ### completeness: the authentic tiles pass every check (non-vacuity, for all sizes) -/

theorem edgeF_complete (B : List H) :
    ∀ L, edgeF node empty (fun j => tileOf node empty B j (B.length / 256 ^ j / 256) (edgeWidth B.length j)) L =
      optMth node empty (Rr B L) := by
  intro L
  induction L with
  | zero => rw [Rr_zero]; rfl
  | succ L ih => rw [edgeF, ih, ← optMth_Rr_succ]

/-- the authentic edge tiles of every non-empty tree meet `hroot` of `verified_sound` (their widths are `tileOf_length`) -/
theorem edge_complete (B : List H) (T : Nat) (hn : B ≠ []) (hT : B.length < 256 ^ T) :
    edgeF node empty (fun j => tileOf node empty B j (B.length / 256 ^ j / 256) (edgeWidth B.length j)) T =
      some (mth node empty B) := by
  rw [edgeF_complete, Rr_top B hT, optMth_of_ne node empty hn]

theorem child_complete (B : List H) {L N W : Nat} (hb : (N / 256 * 256 + W) * 256 ^ (L + 1) ≤ B.length) (hN : N % 256 < W) :
    (tileOf node empty B (L + 1) (N / 256) W)[N % 256]? = some (tileHash node empty (tileOf node empty B L N 256)) := by
  rw [tileOf_entry node empty B hb hN, Nat.div_add_mod', tileHash, mth_tileOf node empty B (child_bound hb hN)]

/-! ### the executable reader establishes `Verified` -/

theorem edgeFx_eq (e : Nat → List H) (L : Nat) : edgeFx node empty e L = edgeF node empty e L := by
  induction L with
  | zero => rfl
  | succ L ih => rw [edgeFx, edgeF, ih]

theorem findTile_length {tiles : List (TileData H)} {L N W : Nat} {es : List H}
    (h : findTile tiles L N W = some es) : es.length = W := by
  obtain ⟨t, hf, rfl⟩ := Option.map_eq_some_iff.1 h
  have := List.find?_some hf
  simp only [Bool.and_eq_true, beq_iff_eq] at this
  exact this.2

theorem edgeAt_length {n : Nat} {tiles : List (TileData H)} {L : Nat} {es : List H}
    (h : edgeAt n tiles L = some es) : es.length = edgeWidth n L := by
  revert h
  fun_cases edgeAt n tiles L <;> intro h
  · cases h
    exact (‹edgeWidth n L = 0›).symm
  · exact findTile_length h

variable {node empty} in
theorem chainUp_verified [DecidableEq H] {n : Nat} {tiles : List (TileData H)} {fuel L N : Nat} {es : List H}
    (h : chainUp node empty fuel n tiles L N = some es) : Verified node empty n (edgesFn n tiles) L N es := by
  fun_induction chainUp node empty fuel n tiles L N generalizing es
  case case2 n tiles L =>
    have : edgesFn n tiles L = es := by unfold edgesFn; rw [h]; rfl
    exact this ▸ Verified.edge L
  case case3 L N _ es' pes hc hf hp ih =>
    cases h
    exact Verified.child L N es' pes (ih hc) (findTile_length hf) hp
  all_goals cases h

theorem numLevels_le (n : Nat) : numLevels n ≤ 9 := by
  unfold numLevels
  cases h : (List.range 9).find? (fun T => decide (n < 256 ^ T)) with
  | none => exact Nat.le_refl 9
  | some T => exact Nat.le_of_lt (List.mem_range.1 (List.mem_of_find?_eq_some h))

theorem edgesFn_length {n : Nat} {tiles : List (TileData H)} (hT : n < 256 ^ numLevels n)
    (hall : ∀ L, L < numLevels n → (edgeAt n tiles L).isSome = true) (j : Nat) :
    (edgesFn n tiles j).length = edgeWidth n j := by
  unfold edgesFn
  by_cases hj : j < numLevels n
  · obtain ⟨es, he⟩ := Option.isSome_iff_exists.1 (hall j hj)
    rw [he]
    exact edgeAt_length he
  · -- at and above the top level the size prescribes no edge tile, and `edgeAt` answers `[]`
    unfold edgeAt
    rw [if_pos (edgeWidth_top hT (Nat.le_of_not_lt hj)), edgeWidth_top hT (Nat.le_of_not_lt hj)]
    rfl

variable {node empty} in
theorem readLeafHash_inv [DecidableEq H] {n : Nat} {root : H} {tiles : List (TileData H)} {i : Nat} {h : H}
    (hr : readLeafHash node empty n root tiles i = some h) :
    n ≠ 0 ∧ n < 256 ^ numLevels n ∧ (∀ L, L < numLevels n → (edgeAt n tiles L).isSome = true) ∧
      edgeFx node empty (edgesFn n tiles) (numLevels n) = some root ∧
      ∃ es, chainUp node empty (numLevels n + 1) n tiles 0 (i / 256) = some es ∧ es[i % 256]? = some h := by
  revert hr
  fun_cases readLeafHash node empty n root tiles i <;> intro hr
  case case4 T hg hall hroot es hc =>
    simp only [not_or, Decidable.not_not] at hg
    rw [Bool.not_eq_true', Bool.not_eq_false] at hall
    exact ⟨hg.1, hg.2.2, fun L hL => List.all_eq_true.1 hall L (List.mem_range.2 hL),
      Decidable.not_not.1 hroot, es, hc, hr⟩
  all_goals cases hr

/-- **The executable reader is sound**: whatever tiles were served, a hash it returns for leaf `i` of a tree head
    `(n, root)` is the record hash of leaf `i` of every leaf list that tree head commits to. -/
theorem readLeafHash_sound [DecidableEq H] (inj : NodeInj node) (B : List H) (tiles : List (TileData H)) (i : Nat) (h : H)
    (hr : readLeafHash node empty B.length (mth node empty B) tiles i = some h) : B[i]? = some h := by
  obtain ⟨hn0, hT, hall, hroot, es, hc, hes⟩ := readLeafHash_inv hr
  rw [← Nat.div_add_mod' i 256]
  exact verified_leaf_hashes node empty inj B _ _ (fun hb => hn0 (congrArg List.length hb)) hT
    (edgesFn_length hT hall) (by rw [← edgeFx_eq]; exact hroot)
    (chainUp_verified hc) (i % 256) h hes

/-! ### the pinned reader versus the sound one (finding F10) -/

theorem chainUpChk_all [DecidableEq H] (chk : Nat → Bool) (hall : ∀ L, chk L = true) :
    ∀ (fuel n : Nat) (tiles : List (TileData H)) (L N : Nat),
      chainUpChk node empty chk fuel n tiles L N = chainUp node empty fuel n tiles L N := by
  intro fuel
  induction fuel with
  | zero => intros; rfl
  | succ fuel ih =>
    intro n tiles L N
    simp only [chainUpChk, chainUp, ih, hall]
    rfl

theorem readLeafHashWith_all [DecidableEq H] (chk : Nat → Bool) (hall : ∀ L, chk L = true)
    (n : Nat) (root : H) (tiles : List (TileData H)) (i : Nat) :
    readLeafHashWith node empty chk n root tiles i = readLeafHash node empty n root tiles i := by
  unfold readLeafHashWith readLeafHash
  simp only [chainUpChk_all node empty chk hall]

/-- whenever the tree has no more peaks than non-empty edge tiles (no two peaks share a tile), the pinned reader skips
    nothing and is sound -/
theorem readLeafHashTlog_sound_of_no_skip [DecidableEq H] (inj : NodeInj node) (B : List H) (tiles : List (TileData H))
    (i : Nat) (h : H) (hs : tlogSkipped B.length = 0)
    (hr : readLeafHashTlog node empty B.length (mth node empty B) tiles i = some h) : B[i]? = some h := by
  unfold readLeafHashTlog at hr
  rw [readLeafHashWith_all node empty _ (by intro L; simp [hs])] at hr
  exact readLeafHash_sound node empty inj B tiles i h hr

/-- e.g. 257 = 256 + 1: two peaks, two edge tiles, nothing skipped; 259 = 256 + 2 + 1: three peaks, two edge tiles,
    the level-0 tile of a one-tile chain is not compared with its parent; 300 = 256 + 32 + 8 + 4: four peaks, two edge
    tiles, and a chain of one tile: `tlogSkipped` bounds what is skipped from above -/
example : tlogSkipped 257 = 0 ∧ tlogSkipped 259 = 1 ∧ tlogSkipped 300 = 2 ∧ chainLen 9 300 0 0 = 1 := by decide

end TileAuth
