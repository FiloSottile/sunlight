import Model.LocalFS
/-! # The file system model of C13: resolution, power loss, frame equations.

Whatever subset of its pending changes a crash keeps, an entry ends up as one of its candidates `cands d n`
(`applyMask_mem`), and so does the entry running processes see. So below `Solid` ancestors the object at a path,
now and after any crash, is decided by the candidates of its last entry (`crash_object_last`), and a `Blocked`
path resolves to nothing whatever reaches the disk. -/
namespace LocalFS

@[simp] theorem parentOf_concat (a : Path) (n : Name) : parentOf (a ++ [n]) = a := by
  simp [parentOf]

@[simp] theorem baseOf_concat (a : Path) (n : Name) : baseOf (a ++ [n]) = n := by
  simp [baseOf]

theorem path_split (p : Path) (h : p ≠ []) : p = parentOf p ++ [baseOf p] := by
  rcases List.eq_nil_or_concat p with h0 | ⟨a, n, rfl⟩
  · exact absurd h0 h
  · simp

/-! ## Directory records: the volatile view and the candidates -/

@[simp] theorem vol_nil_pending (m : Name → Option Node) : Dir.vol { durable := m, pending := [] } = m := rfl

theorem vol_of_no_pending {d : Dir} (h : d.pending = []) : d.vol = d.durable := by
  cases d; cases h; rfl

/-- Candidates: the values a crash (or the volatile view) can give to name `n` in directory `d`. -/
def cands (d : Dir) (n : Name) : List (Option Node) :=
  d.durable n :: (d.pending.filter (fun c => c.1 = n)).map (·.2)

@[simp] theorem cands_nil_pending (m : Name → Option Node) (n : Name) :
    cands { durable := m, pending := [] } n = [m n] := rfl

theorem durable_mem_cands (d : Dir) (n : Name) : d.durable n ∈ cands d n := List.mem_cons_self

theorem cands_no_pending {d : Dir} {n : Name} (h : ∀ c ∈ d.pending, c.1 ≠ n) : cands d n = [d.durable n] := by
  simp only [cands, List.cons.injEq, true_and, List.map_eq_nil_iff, List.filter_eq_nil_iff]
  intro c hc; simpa using h c hc

theorem cands_append_pending (d : Dir) (c : Change) (n : Name) :
    cands { d with pending := d.pending ++ [c] } n = cands d n ++ (if c.1 = n then [c.2] else []) := by
  simp only [cands, List.filter_append, List.map_append, List.cons_append]
  by_cases h : c.1 = n <;> simp [h]

theorem applyMask_mem (n : Name) : ∀ (ps : List Change) (bs : List Bool) (m : Name → Option Node),
    applyMask ps bs m n ∈ m n :: (ps.filter (fun c => c.1 = n)).map (·.2) := by
  intro ps
  induction ps with
  | nil => intro bs m; cases bs <;> simp [applyMask]
  | cons c cs ih =>
    intro bs m
    cases bs with
    | nil => simp [applyMask]
    | cons b bs =>
      -- the head candidate becomes the value of `c` if `c` is kept and is a change of `n`
      have := ih bs (if b then upd m c.1 c.2 else m)
      simp only [applyMask, List.filter_cons, List.mem_cons] at this ⊢
      by_cases hc : c.1 = n
      · simp only [hc, decide_true, if_true, List.map_cons, List.mem_cons] at this ⊢
        cases b
        · exact this.imp_right Or.inr
        · exact Or.inr (by simpa [upd, hc] using this)
      · have hn : ¬ n = c.1 := fun e => hc e.symm
        cases b <;> simpa [upd, hn, hc] using this

theorem vol_eq_applyMask (d : Dir) : d.vol = applyMask d.pending (List.replicate d.pending.length true) d.durable := by
  cases d with
  | mk dur pend =>
    simp only [Dir.vol]
    induction pend generalizing dur with
    | nil => rfl
    | cons c cs ih => simp [List.replicate, applyMask, ih]

theorem vol_mem_cands (d : Dir) (n : Name) : d.vol n ∈ cands d n := by
  rw [vol_eq_applyMask]; exact applyMask_mem n _ _ _

theorem crash_dirs (c : CrashChoice) (t : FS) (p : Path) :
    (crash c t).dirs p = (t.dirs p).map (crashDir (c.keep p)) := rfl

theorem crashDir_vol_mem (mask : List Bool) (d : Dir) (n : Name) : (crashDir mask d).vol n ∈ cands d n :=
  applyMask_mem n _ _ _

/-! ## Resolution (`FS.walk`) level by level -/

theorem walk_cons (t : FS) (v : Dir → Name → Option Node) (cur : Path) (n : Name) (b : Path) :
    t.walk v cur (n :: b) =
      match (t.dirs cur).bind (fun d => v d n) with
      | some .dir => t.walk v (cur ++ [n]) b
      | some (.file i) => if b.isEmpty then some (.file i) else none
      | none => none := by
  simp only [FS.walk]
  cases t.dirs cur with
  | none => rfl
  | some d => simp only [Option.bind_some]; split <;> simp_all

theorem walk_append (t : FS) (v : Dir → Name → Option Node) (a b cur : Path) :
    t.walk v cur (a ++ b) =
      match t.walk v cur a with
      | some .dir => t.walk v (cur ++ a) b
      | some (.file i) => if b.isEmpty then some (.file i) else none
      | none => none := by
  induction a generalizing cur with
  | nil => simp [FS.walk]
  | cons n a ih =>
    rw [List.cons_append, walk_cons, walk_cons]
    split
    · simp [ih]
    · cases a <;> cases b <;> simp
    · rfl

theorem walk_eq_dir_iff (t : FS) (v : Dir → Name → Option Node) (p cur : Path) :
    t.walk v cur p = some .dir ↔
      ∀ a n b, p = a ++ n :: b → (t.dirs (cur ++ a)).bind (fun d => v d n) = some .dir := by
  constructor
  · rintro h a n b rfl
    rw [walk_append] at h
    split at h
    · rw [walk_cons] at h
      split at h
      · assumption
      · split at h <;> cases h
      · cases h
    · split at h <;> cases h
    · cases h
  · intro H
    induction p generalizing cur with
    | nil => rfl
    | cons m p ih =>
      have h0 := H [] m p rfl
      rw [List.append_nil] at h0
      rw [walk_cons, h0]
      exact ih _ fun a n b hab => by simpa using H (m :: a) n b (by rw [hab]; rfl)

theorem walk_single (t : FS) (v : Dir → Name → Option Node) (cur : Path) (n : Name) :
    t.walk v cur [n] = (t.dirs cur).bind (fun d => v d n) := by
  rw [walk_cons]; split <;> simp_all [FS.walk, eq_comm]

theorem lookup_parent_dir {s : FS} {par : Path} {base : Name} (h : s.lookup (par ++ [base]) ≠ none) :
    s.lookup par = some .dir := by
  rw [FS.lookup, walk_append] at h
  split at h <;> simp_all [FS.lookup]

/-! ## Solid ancestors, blocked paths -/

/-- Every proper ancestor of `path` is a directory whose entry is on disk and has no pending change. -/
def Solid (t : FS) (path : Path) : Prop :=
  ∀ a n b, path = a ++ n :: b → b ≠ [] →
    ∃ d, t.dirs a = some d ∧ d.durable n = some .dir ∧ ∀ c ∈ d.pending, c.1 ≠ n

/-- What `Solid` asks of one level. -/
def SolidEntry (t : FS) (a : Path) (n : Name) : Prop :=
  ∃ d, t.dirs a = some d ∧ d.durable n = some .dir ∧ ∀ c ∈ d.pending, c.1 ≠ n

theorem solid_concat (t : FS) (par : Path) (base : Name) :
    Solid t (par ++ [base]) ↔ ∀ a n b, par = a ++ n :: b → SolidEntry t a n := by
  constructor
  · intro h a n b hab
    exact h a n (b ++ [base]) (by simp [hab]) (by simp)
  · intro h a n b hab hb
    rcases List.eq_nil_or_concat b with rfl | ⟨b', x, rfl⟩
    · exact absurd rfl hb
    · have h1 : par ++ [base] = (a ++ n :: b') ++ [x] := by simpa using hab
      exact h a n b' (List.append_inj' h1 rfl).1

theorem solid_congr {t t' : FS} {par : Path} {base : Name}
    (h : ∀ a n b, par = a ++ n :: b → t'.dirs a = t.dirs a) (hS : Solid t (par ++ [base])) :
    Solid t' (par ++ [base]) := by
  rw [solid_concat] at hS ⊢
  intro a n b hab
  obtain ⟨d, hd, hn⟩ := hS a n b hab
  exact ⟨d, (h a n b hab).trans hd, hn⟩

theorem solid_extend (t : FS) (q : Path) (n x : Name) (hS : Solid t (q ++ [n])) (he : SolidEntry t q n) :
    Solid t (q ++ [n] ++ [x]) := by
  rw [solid_concat] at hS ⊢
  intro a m b hab
  rcases List.eq_nil_or_concat b with rfl | ⟨b', y, rfl⟩
  · obtain ⟨rfl, hm⟩ := List.append_inj' hab rfl
    cases hm; exact he
  · exact hS a m b' (List.append_inj' (by simpa using hab : q ++ [n] = (a ++ m :: b') ++ [y]) rfl).1

/-- Some level of `path` can only resolve to "no such entry", whatever reaches the disk. -/
def Blocked (t : FS) (path : Path) : Prop :=
  ∃ a n b, path = a ++ n :: b ∧ ∀ d, t.dirs a = some d → ∀ x ∈ cands d n, x = none

/-! `t'` has the directories of `t`, each record `d` at `a` replaced by `f a d`, whose visible entries are among
the candidates of `d`. Two instances: `t` itself, and `crash c t` (`crash_dirs`, `crashDir_vol_mem`). -/
section Shows
variable {t t' : FS} {f : Path → Dir → Dir} (hdirs : ∀ a, t'.dirs a = (t.dirs a).map (f a))
  (hv : ∀ a d n, (f a d).vol n ∈ cands d n)
include hdirs hv

theorem lookup_of_solid {par : Path} {base : Name} (hS : Solid t (par ++ [base])) :
    t'.lookup (par ++ [base]) = (t.dirs par).bind (fun d => (f par d).vol base) := by
  have hpar : t'.walk Dir.vol [] par = some .dir := by
    rw [walk_eq_dir_iff]
    intro a n b hab
    obtain ⟨d, hd, hdur, hp⟩ := (solid_concat t par base).1 hS a n b hab
    have := hv a d n
    rw [cands_no_pending hp, hdur, List.mem_singleton] at this
    simp [hdirs, hd, this]
  rw [FS.lookup, walk_append, hpar, walk_single, List.nil_append, hdirs]
  cases t.dirs par <;> rfl

theorem lookup_of_blocked {path : Path} (h : Blocked t path) : t'.lookup path = none := by
  obtain ⟨a, n, b, rfl, H⟩ := h
  rw [FS.lookup, walk_append]
  split
  · rw [walk_cons, List.nil_append, hdirs]
    cases hd : t.dirs a with
    | none => rfl
    | some d => simp [H d hd _ (hv a d n)]
  · rfl
  · rfl

end Shows

theorem lookup_last {t : FS} {par : Path} {base : Name} (hS : Solid t (par ++ [base])) :
    t.lookup (par ++ [base]) = (t.dirs par).bind (fun d => d.vol base) :=
  lookup_of_solid (f := fun _ d => d) (by simp) (fun _ => vol_mem_cands) hS

theorem crash_lookup_last (c : CrashChoice) {t : FS} {par : Path} {base : Name} (hS : Solid t (par ++ [base])) :
    (crash c t).lookup (par ++ [base]) = (t.dirs par).bind (fun d => (crashDir (c.keep par) d).vol base) :=
  lookup_of_solid (crash_dirs c t) (fun _ => crashDir_vol_mem _) hS

theorem lookup_blocked {t : FS} {path : Path} (h : Blocked t path) : t.lookup path = none :=
  lookup_of_blocked (f := fun _ d => d) (by simp) (fun _ => vol_mem_cands) h

theorem crash_lookup_blocked (c : CrashChoice) {t : FS} {path : Path} (h : Blocked t path) :
    (crash c t).lookup path = none :=
  lookup_of_blocked (crash_dirs c t) (fun _ => crashDir_vol_mem _) h

theorem object_of_lookup_none {t : FS} {path : Path} (h : t.lookup path = none) : t.object path = none := by
  simp [FS.object, h]

theorem object_eq_fileAt (s : FS) (path : Path) : s.object path = (s.fileAt path).map (·.data) := by
  unfold FS.object FS.fileAt; split <;> rfl

/-! ## What a crash leaves at a path -/

def nodeObj (t : FS) : Option Node → Option Bytes
  | some (.file j) => (t.files j).map (·.data)
  | _ => none

theorem object_eq_nodeObj (t : FS) (path : Path) : t.object path = nodeObj t (t.lookup path) := by
  unfold FS.object nodeObj
  cases t.lookup path with
  | none => rfl
  | some nd => cases nd <;> rfl

theorem nodeObj_crash_synced (c : CrashChoice) (t : FS) (x : Option Node)
    (h : ∀ j f, x = some (.file j) → t.files j = some f → f.synced = true) :
    nodeObj (crash c t) x = nodeObj t x := by
  cases x with
  | none => rfl
  | some nd =>
    cases nd with
    | dir => rfl
    | file j =>
      simp only [nodeObj]
      cases hf : t.files j with
      | none => simp [crash, hf]
      | some f => simp [crash, hf, crashFile, h j f rfl hf]

/-- The candidate argument. What the candidate denotes is read in the crashed state: there an un-synced inode
holds junk (for the others, `nodeObj_crash_synced`). -/
theorem crash_object_last {t : FS} {par : Path} {base : Name} {dk : Dir} (c : CrashChoice)
    (hS : Solid t (par ++ [base])) (hd : t.dirs par = some dk) :
    ∃ x ∈ cands dk base, (crash c t).object (par ++ [base]) = nodeObj (crash c t) x :=
  ⟨_, crashDir_vol_mem (c.keep par) dk base, by
    rw [object_eq_nodeObj, crash_lookup_last c hS, hd, Option.bind_some]⟩

theorem object_last {t : FS} {par : Path} {base : Name} {dk : Dir}
    (hS : Solid t (par ++ [base])) (hd : t.dirs par = some dk) :
    t.object (par ++ [base]) = nodeObj t (dk.vol base) := by
  rw [object_eq_nodeObj, lookup_last hS, hd, Option.bind_some]

/-! ## Traces: a fact after every prefix (`SafeAlong`), inert calls -/

def SafeAlong (Q : FS → Prop) (s : FS) (tr : List Sys) : Prop := ∀ k, Q (run s (tr.take k))

theorem run_append (s : FS) (a b : List Sys) : run s (a ++ b) = run (run s a) b := by
  simp [run, List.foldl_append]

@[simp] theorem run_nil (s : FS) : run s [] = s := rfl
@[simp] theorem run_cons (s : FS) (e : Sys) (tr : List Sys) : run s (e :: tr) = run (step s e) tr := rfl

theorem safeAlong_nil {Q : FS → Prop} {s : FS} : SafeAlong Q s [] ↔ Q s :=
  ⟨fun h => by simpa using h 0, fun h k => by simpa using h⟩

theorem safeAlong_cons {Q : FS → Prop} {s : FS} {e : Sys} {tr : List Sys} :
    SafeAlong Q s (e :: tr) ↔ Q s ∧ SafeAlong Q (step s e) tr := by
  refine ⟨fun h => ⟨by simpa using h 0, fun k => by simpa using h (k + 1)⟩, fun h k => ?_⟩
  cases k with
  | zero => simpa using h.1
  | succ k => simpa using h.2 k

/-- `SafeAlong` over an explicit trace is proved call by call: `.cons` takes the fact before the call, `.skip` passes
an inert call, `.nil` takes the fact at the end. -/
theorem SafeAlong.nil {Q : FS → Prop} {s : FS} (h0 : Q s) : SafeAlong Q s [] := safeAlong_nil.2 h0

theorem SafeAlong.cons {Q : FS → Prop} {s : FS} {e : Sys} {tr : List Sys} (h0 : Q s)
    (h : SafeAlong Q (step s e) tr) : SafeAlong Q s (e :: tr) :=
  safeAlong_cons.2 ⟨h0, h⟩

theorem safeAlong_append {Q : FS → Prop} {s : FS} {a b : List Sys}
    (ha : SafeAlong Q s a) (hb : SafeAlong Q (run s a) b) : SafeAlong Q s (a ++ b) := by
  intro k
  by_cases hk : k ≤ a.length
  · rw [List.take_append_of_le_length hk]; exact ha k
  · have : (a ++ b).take k = a ++ b.take (k - a.length) := by
      rw [List.take_append]; simp [List.take_of_length_le (Nat.le_of_lt (Nat.lt_of_not_le hk))]
    rw [this, run_append]; exact hb _

theorem safeAlong_final {Q : FS → Prop} {s : FS} {tr : List Sys} (h : SafeAlong Q s tr) : Q (run s tr) := by
  simpa using h tr.length

def Sys.inert : Sys → Bool
  | .mkdir _ | .fsyncDir _ | .creat _ _ | .fchmod _ _ _ | .write _ _ _ | .fsync _ _ | .rename _ _ _ true
  | .unlink _ | .rmdir _ true | .setImmutable _ _ _ => false
  | _ => true

theorem step_inert (s : FS) (e : Sys) (h : e.inert = true) : step s e = s := by
  cases e with
  | rename a b nd ok => cases ok <;> first | rfl | cases h
  | rmdir p ok => cases ok <;> first | rfl | cases h
  | mkdir | fsyncDir | creat | fchmod | write | fsync | unlink | setImmutable => cases h
  | _ => rfl

theorem run_inert (s : FS) (tr : List Sys) (h : ∀ e ∈ tr, e.inert = true) : run s tr = s := by
  induction tr generalizing s with
  | nil => rfl
  | cons e tr ih =>
    rw [run_cons, step_inert s e (h e (by simp))]
    exact ih s (fun x hx => h x (by simp [hx]))

theorem safeAlong_inert {Q : FS → Prop} {s : FS} {tr : List Sys} (h : ∀ e ∈ tr, e.inert = true) (h0 : Q s) :
    SafeAlong Q s tr := by
  intro k
  rw [run_inert s _ (fun e he => h e (List.mem_of_mem_take he))]; exact h0

theorem safeAlong_inert_append {Q : FS → Prop} {s : FS} {a b : List Sys} (ha : ∀ e ∈ a, e.inert = true)
    (hb : SafeAlong Q s b) : SafeAlong Q s (a ++ b) :=
  safeAlong_append (safeAlong_inert ha (hb 0)) (by rw [run_inert s a ha]; exact hb)

theorem SafeAlong.skip {Q : FS → Prop} {s : FS} {e : Sys} {tr : List Sys} (he : e.inert = true)
    (h : SafeAlong Q s tr) : SafeAlong Q s (e :: tr) :=
  safeAlong_inert_append (a := [e]) (by simpa using he) h

/-! ## Frame equations of the state operations -/

/-- `FS.change` and `fsyncDir` both rewrite the record of one directory, if it has one. -/
def FS.mapDir (s : FS) (p : Path) (f : Dir → Dir) : FS :=
  match s.dirs p with
  | none => s
  | some d => s.setDir p (f d)

theorem change_eq_mapDir (s : FS) (p : Path) (c : Change) :
    s.change p c = s.mapDir p fun d => { d with pending := d.pending ++ [c] } := rfl

theorem fsyncDir_eq_mapDir (s : FS) (p : Path) :
    step s (.fsyncDir p) = s.mapDir p fun d => { durable := d.vol, pending := [] } := rfl

theorem mapDir_dirs (s : FS) (p : Path) (f : Dir → Dir) (q : Path) :
    (s.mapDir p f).dirs q = if q = p then (s.dirs p).map f else s.dirs q := by
  unfold FS.mapDir
  by_cases hq : q = p
  · subst hq; cases h : s.dirs q <;> simp [FS.setDir, h]
  · cases s.dirs p <;> simp [FS.setDir, hq]

@[simp] theorem mapDir_files (s : FS) (p : Path) (f : Dir → Dir) : (s.mapDir p f).files = s.files := by
  unfold FS.mapDir; cases s.dirs p <;> rfl

@[simp] theorem mapDir_next (s : FS) (p : Path) (f : Dir → Dir) : (s.mapDir p f).next = s.next := by
  unfold FS.mapDir; cases s.dirs p <;> rfl

theorem modFile_files (s : FS) (i : Nat) (g : File → File) (j : Nat) :
    (s.modFile i g).files j = if j = i then (s.files i).map g else s.files j := by
  unfold FS.modFile
  by_cases hj : j = i
  · subst hj; cases h : s.files j <;> simp [FS.setFile, h]
  · cases s.files i <;> simp [FS.setFile, hj]

@[simp] theorem modFile_dirs (s : FS) (i : Nat) (g : File → File) : (s.modFile i g).dirs = s.dirs := by
  unfold FS.modFile; cases s.files i <;> rfl

@[simp] theorem modFile_next (s : FS) (i : Nat) (g : File → File) : (s.modFile i g).next = s.next := by
  unfold FS.modFile; cases s.files i <;> rfl

theorem step_mkdir_concat (t : FS) (q : Path) (n : Name) :
    step t (.mkdir (q ++ [n])) =
      (t.setDir (q ++ [n]) Dir.empty).mapDir q fun d => { d with pending := d.pending ++ [(n, some .dir)] } := by
  simp only [step, parentOf_concat, baseOf_concat]; rfl

theorem step_creat_concat (t : FS) (q : Path) (n : Name) (i : Nat) :
    step t (.creat (q ++ [n]) i) =
      { (t.setFile i { data := [], synced := false, mode := 0o600, immutable := false }).change q (n, some (.file i)) with
        next := Nat.max t.next (i + 1) } := by
  simp only [step, parentOf_concat, baseOf_concat]

theorem step_unlink_concat (t : FS) (q : Path) (n : Name) : step t (.unlink (q ++ [n])) = t.change q (n, none) := by
  simp only [step, parentOf_concat, baseOf_concat]

theorem step_rename_concat (t : FS) (q q' : Path) (a b : Name) (nd : Node) :
    step t (.rename (q ++ [a]) (q' ++ [b]) nd true) = (t.change q' (b, some nd)).change q (a, none) := by
  simp only [step, parentOf_concat, baseOf_concat]

@[simp] theorem step_mkdir_files (t : FS) (p : Path) : (step t (.mkdir p)).files = t.files := by
  simp [step, change_eq_mapDir, FS.setDir]

@[simp] theorem step_mkdir_next (t : FS) (p : Path) : (step t (.mkdir p)).next = t.next := by
  simp [step, change_eq_mapDir, FS.setDir]

@[simp] theorem step_fsyncDir_files (t : FS) (p : Path) : (step t (.fsyncDir p)).files = t.files := by
  simp [fsyncDir_eq_mapDir]

@[simp] theorem step_fsyncDir_next (t : FS) (p : Path) : (step t (.fsyncDir p)).next = t.next := by
  simp [fsyncDir_eq_mapDir]

theorem fsyncDir_of_no_pending {s : FS} {p : Path} {d : Dir} (hd : s.dirs p = some d) (hp : d.pending = []) :
    step s (.fsyncDir p) = s := by
  cases s; cases d
  simp_all [step, FS.setDir, Dir.vol]
  funext q; split <;> simp_all

theorem step_next_le (s : FS) (e : Sys) : s.next ≤ (step s e).next := by
  cases e with
  | creat p i => exact Nat.le_max_left _ _
  | rename a b nd ok => cases ok <;> simp [step, change_eq_mapDir]
  | rmdir p ok => cases ok <;> simp [step, change_eq_mapDir]
  | mkdir p => simp
  | fsyncDir p => simp
  | _ => simp [step, change_eq_mapDir]

/-! ## Calls on one directory and one inode -/

/-- `t` differs from `t1` only in directory `par` (now `dk`) and inode `i` (now `fi`). -/
structure WState (t1 t : FS) (par : Path) (i : Nat) (dk : Dir) (fi : Option File) : Prop where
  dirs_par : t.dirs par = some dk
  dirs_other : ∀ q, q ≠ par → t.dirs q = t1.dirs q
  files_i : t.files i = fi
  files_other : ∀ j, j ≠ i → t.files j = t1.files j

theorem WState.init {t1 : FS} {par : Path} {d : Dir} (i : Nat) (hd : t1.dirs par = some d) :
    WState t1 t1 par i d (t1.files i) := ⟨hd, fun _ _ => rfl, rfl, fun _ _ => rfl⟩

theorem WState.mapDir {t1 t : FS} {par : Path} {i : Nat} {dk : Dir} {fi : Option File} (f : Dir → Dir)
    (h : WState t1 t par i dk fi) : WState t1 (t.mapDir par f) par i (f dk) fi :=
  ⟨by simp [mapDir_dirs, h.dirs_par], fun q hq => by simp [mapDir_dirs, hq, h.dirs_other q hq],
    by simp [h.files_i], fun j hj => by simp [h.files_other j hj]⟩

theorem WState.change {t1 t : FS} {par : Path} {i : Nat} {dk : Dir} {fi : Option File} (c : Change)
    (h : WState t1 t par i dk fi) :
    WState t1 (t.change par c) par i { dk with pending := dk.pending ++ [c] } fi :=
  h.mapDir _

section
variable {t1 t : FS} {par : Path} {i : Nat} {dk : Dir} {fi : Option File}

theorem WState.modFile (g : File → File) (h : WState t1 t par i dk fi) : WState t1 (t.modFile i g) par i dk (fi.map g) :=
  ⟨by simp [h.dirs_par], fun q hq => by simp [h.dirs_other q hq],
    by simp [modFile_files, h.files_i], fun j hj => by simp [modFile_files, hj, h.files_other j hj]⟩

theorem WState.setFile (f : File) (h : WState t1 t par i dk fi) : WState t1 (t.setFile i f) par i dk (some f) :=
  ⟨h.dirs_par, h.dirs_other, by simp [FS.setFile], fun j hj => by simp [FS.setFile, hj, h.files_other j hj]⟩

theorem WState.creat (n : Name) (h : WState t1 t par i dk fi) :
    WState t1 (step t (.creat (par ++ [n]) i)) par i { dk with pending := dk.pending ++ [(n, some (.file i))] }
      (some { data := [], synced := false, mode := 0o600, immutable := false }) := by
  -- `creat` also bumps `next`, which `WState` does not mention: the same four facts, about another state
  have h' := (h.setFile { data := [], synced := false, mode := 0o600, immutable := false }).change (n, some (.file i))
  rw [step_creat_concat]
  exact ⟨h'.dirs_par, h'.dirs_other, h'.files_i, h'.files_other⟩

theorem WState.fsyncDir (h : WState t1 t par i dk fi) :
    WState t1 (step t (.fsyncDir par)) par i { durable := dk.vol, pending := [] } fi :=
  h.mapDir _

theorem WState.unlink (n : Name) (h : WState t1 t par i dk fi) :
    WState t1 (step t (.unlink (par ++ [n]))) par i { dk with pending := dk.pending ++ [(n, none)] } fi :=
  step_unlink_concat t par n ▸ h.change (n, none)

theorem WState.rename (a b : Name) (nd : Node) (h : WState t1 t par i dk fi) :
    WState t1 (step t (.rename (par ++ [a]) (par ++ [b]) nd true)) par i
      { dk with pending := dk.pending ++ [(b, some nd)] ++ [(a, none)] } fi :=
  step_rename_concat t par par a b nd ▸ (h.change (b, some nd)).change (a, none)

theorem WState.solid (base : Name) (h : WState t1 t par i dk fi) (hS : Solid t1 (par ++ [base])) :
    Solid t (par ++ [base]) :=
  solid_congr (fun a n b hab => h.dirs_other a (by rintro rfl; simp at hab)) hS

end

theorem WState.quiescent {t1 t : FS} {par : Path} {i : Nat} {dk : Dir} {f : File}
    (h : WState t1 t par i dk (some f)) (hq : Quiescent t1) (hp : dk.pending = []) (hs : f.synced = true) :
    Quiescent t := by
  constructor
  · intro p d hd
    by_cases hpp : p = par
    · subst hpp; rw [h.dirs_par] at hd; cases hd; exact hp
    · rw [h.dirs_other p hpp] at hd; exact hq.1 p d hd
  · intro j g hg
    by_cases hj : j = i
    · subst hj; rw [h.files_i] at hg; cases hg; exact hs
    · rw [h.files_other j hj] at hg; exact hq.2 j g hg

/-! ## Quiescent states: a crash changes nothing, a lookup reads the disk -/

theorem crash_quiescent (c : CrashChoice) (s : FS) (hq : Quiescent s) : crash c s = s := by
  cases s with
  | mk files dirs next =>
    simp only [crash, FS.mk.injEq, and_true]
    constructor
    · funext i
      cases hf : files i with
      | none => rfl
      | some f => simp [crashFile, hq.2 i f hf]
    · funext p
      cases hd : dirs p with
      | none => rfl
      | some d =>
        have hp := hq.1 p d hd
        cases d with
        | mk dur pend => simp_all [crashDir, applyMask]

theorem quiescent_crash (c : CrashChoice) (s : FS) : Quiescent (crash c s) := by
  constructor
  · intro p d hd
    simp only [crash, Option.map_eq_some_iff] at hd
    obtain ⟨d0, _, rfl⟩ := hd
    rfl
  · intro i f hf
    simp only [crash, Option.map_eq_some_iff] at hf
    obtain ⟨f0, _, rfl⟩ := hf
    unfold crashFile
    split <;> simp_all

theorem lookup_settled {t : FS} {par : Path} {base : Name} {d : Dir} (hq : Quiescent t)
    (hS : Solid t (par ++ [base])) (hd : t.dirs par = some d) : t.lookup (par ++ [base]) = d.durable base := by
  rw [lookup_last hS, hd, Option.bind_some, vol_of_no_pending (hq.1 par d hd)]

/-- Entries and directory records are two maps of the model; this ties them: a directory entry on disk has a
record, and so has the world root. -/
def WF (s : FS) : Prop :=
  s.dirs [] ≠ none ∧ ∀ a d n, s.dirs a = some d → d.durable n = some .dir → s.dirs (a ++ [n]) ≠ none

theorem lookup_dir_levels {s : FS} {p : Path} (hq : Quiescent s) (h : s.lookup p = some .dir) :
    ∀ a n b, p = a ++ n :: b → SolidEntry s a n := by
  intro a n b hab
  have := (walk_eq_dir_iff s Dir.vol p []).1 h a n b hab
  rw [List.nil_append] at this
  cases hd : s.dirs a with
  | none => simp [hd] at this
  | some d =>
    have hp := hq.1 _ d hd
    rw [hd, Option.bind_some, vol_of_no_pending hp] at this
    exact ⟨d, hd, this, by simp [hp]⟩

theorem lookup_dir_solid {s : FS} {p : Path} (hq : Quiescent s) (h : s.lookup p = some .dir) (x : Name) :
    Solid s (p ++ [x]) :=
  (solid_concat s p x).2 (lookup_dir_levels hq h)

theorem lookup_dir_record {s : FS} {p : Path} (hq : Quiescent s) (hwf : WF s) (h : s.lookup p = some .dir) :
    ∃ d, s.dirs p = some d := by
  rcases List.eq_nil_or_concat p with rfl | ⟨q, m, rfl⟩
  · exact Option.ne_none_iff_exists'.1 hwf.1
  · obtain ⟨d, hd, hn, _⟩ := lookup_dir_levels hq h q m [] (by simp)
    exact Option.ne_none_iff_exists'.1 (by simpa using hwf.2 q d m hd hn)

end LocalFS
