import Model.LocalFS
/-! # Keys (C13): what `filepath.Localize` and the helper `localize` accept and reject. -/
namespace LocalFS

theorem splitSlash_components (k : Bytes) : ∀ c ∈ splitSlash k, slash ∉ c ∧ c ⊆ k := by
  fun_induction splitSlash k with
  | case1 => simp
  | case2 rest ih =>
    exact List.forall_mem_cons.2 ⟨by simp, fun c hc => (ih c hc).imp_right (List.subset_cons_of_subset _)⟩
  | case3 b rest hb => simp [Ne.symm hb]
  | case4 b rest hb e es heq ih =>
    obtain ⟨he, hes⟩ := List.forall_mem_cons.1 (heq ▸ ih)
    exact List.forall_mem_cons.2 ⟨⟨by simp [he.1, Ne.symm hb], List.cons_subset_cons _ he.2⟩,
      fun c hc => (hes c hc).imp_right (List.subset_cons_of_subset _)⟩

theorem stdLocalize_components {key : Bytes} {comps : Path} (h : stdLocalize key = some comps) :
    ∀ c ∈ comps, c ≠ [] ∧ c ≠ dot ∧ c ≠ dotdot ∧ slash ∉ c ∧ (0 : UInt8) ∉ c := by
  unfold stdLocalize at h
  split at h
  · rename_i hv
    simp only [Bool.and_eq_true, Bool.not_eq_true', validPath, Bool.or_eq_true, beq_iff_eq] at hv
    obtain ⟨⟨_, hel⟩, hnul⟩ := hv
    simp only [Option.some.injEq] at h
    by_cases hd : key = dot
    · simp [hd] at h; subst h; simp
    · simp only [beq_iff_eq, hd, if_false] at h
      subst h
      intro c hc
      have hg := List.all_eq_true.1 (hel.resolve_left hd) c hc
      simp only [goodElem, Bool.and_eq_true, bne_iff_ne, ne_eq] at hg
      refine ⟨hg.1.1, hg.1.2, hg.2, (splitSlash_components key c hc).1, fun h0 => ?_⟩
      have hc0 : key.contains 0 = true := by simpa using (splitSlash_components key c hc).2 h0
      rw [hc0] at hnul; cases hnul
  · cases h

theorem stdLocalize_rejects_nul {key : Bytes} (h : (0 : UInt8) ∈ key) : stdLocalize key = none := by
  have : key.contains 0 = true := by simpa using h
  unfold stdLocalize
  rw [this]; simp

theorem stdLocalize_rejects_elem {key : Bytes} {c : Name} (hd : key ≠ dot) (hc : c ∈ splitSlash key)
    (hbad : goodElem c = false) : stdLocalize key = none := by
  have : (splitSlash key).all goodElem = false := List.all_eq_false.2 ⟨c, hc, by simp [hbad]⟩
  simp [stdLocalize, validPath, hd, this]

theorem stdLocalize_rejects_dotdot {key : Bytes} (h : dotdot ∈ splitSlash key) : stdLocalize key = none :=
  stdLocalize_rejects_elem (by rintro rfl; revert h; decide) h (by decide)

theorem stdLocalize_rejects_absolute (rest : Bytes) : stdLocalize (slash :: rest) = none :=
  stdLocalize_rejects_elem (c := []) (by simp [dot, slash]) (by simp [splitSlash]) (by decide)

theorem stdLocalize_rejects_empty : stdLocalize [] = none := by decide

theorem localize_some {key : Bytes} {comps : Path} (h : localize key = some comps) :
    stdLocalize key = some comps ∧ comps ≠ [] := by
  unfold localize at h
  cases hs : stdLocalize key with
  | none => simp [hs] at h
  | some c =>
    cases c with
    | nil => simp [hs] at h
    | cons x xs =>
      simp only [hs, Option.some.injEq] at h
      subst h
      exact ⟨rfl, by simp⟩

theorem localize_none_of_std {key : Bytes} (h : stdLocalize key = none) : localize key = none := by
  simp [localize, h]

theorem localize_split (dir : Path) {key : Bytes} {comps : Path} (h : localize key = some comps) :
    ∃ par base, Within dir par ∧ dir ++ comps = par ++ [base] := by
  rcases List.eq_nil_or_concat comps with rfl | ⟨q, n, rfl⟩
  · exact absurd rfl (localize_some h).2
  · exact ⟨dir ++ q, n, List.prefix_append dir q, by simp⟩

theorem localize_components {key : Bytes} {comps : Path} (h : localize key = some comps) :
    ∀ c ∈ comps, c ≠ [] ∧ c ≠ dot ∧ c ≠ dotdot ∧ slash ∉ c ∧ (0 : UInt8) ∉ c :=
  stdLocalize_components (localize_some h).1

theorem localize_rejects_nul {key : Bytes} (h : (0 : UInt8) ∈ key) : localize key = none :=
  localize_none_of_std (stdLocalize_rejects_nul h)

theorem localize_rejects_dotdot {key : Bytes} (h : dotdot ∈ splitSlash key) : localize key = none :=
  localize_none_of_std (stdLocalize_rejects_dotdot h)

theorem localize_rejects_absolute (rest : Bytes) : localize (slash :: rest) = none :=
  localize_none_of_std (stdLocalize_rejects_absolute rest)

theorem localize_rejects_empty : localize [] = none := localize_none_of_std stdLocalize_rejects_empty

theorem localize_rejects_dot : stdLocalize dot = some [] ∧ localize dot = none := by decide

end LocalFS
