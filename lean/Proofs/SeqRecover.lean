import Proofs.SeqStore
/-! Recoverability (the other half of I5): without tampering, every committed tree is empty, or published
(by leaves), or its upload bundle is still staged (`Rec`). `Inv4` adds the facts about the shape of the store
that the recovery run of Proofs/SeqRecover2.lean needs in order to be accepted by `step`. -/
namespace Seq

theorem bundleOK_ne_nil {o : Nat} {tr : Tree} {items : List (TileId × Tree)}
    (hb : bundleOK o tr items = true) (h : o < tr.length) : items ≠ [] := by
  simp only [bundleOK, Bool.and_eq_true, beq_iff_eq] at hb
  have hl := hb.2
  have := newTilesList_ne_nil h
  intro hnil
  rw [hnil] at hl
  exact this (List.eq_nil_of_length_eq_zero hl.symm)

theorem bundle_newAt {o : Nat} {tr : Tree} {items : List (TileId × Tree)}
    (hb : bundleOK o tr items = true) {p : TileId × Tree} (hp : p ∈ items) : NewAt o tr.length p.1 = true := by
  simp only [bundleOK, Bool.and_eq_true, List.all_eq_true] at hb
  have := hb.1.1 p hp
  simp only [beq_iff_eq] at this
  exact this.1

def Staged (st : Store) (tr : Tree) : Prop := ∃ items imm, st (.staging tr) = some (.bundle items, imm)

def PubL (P : List Ck) (tr : Tree) : Prop := ∃ p ∈ P, p.leaves = tr

def Rec (s : Sys) (tr : Tree) : Prop := tr = [] ∨ PubL s.pubHist tr ∨ Staged s.store tr

theorem Staged.upload {st st' : Store} {k : Key} {imm : Bool} {o : Obj} {r : Res} {tr : Tree}
    (h : storeUpload st k imm o r = some st') (ho : k = .staging tr → ∃ items, o = .bundle items)
    (hs : Staged st tr) : Staged st' tr := by
  obtain ⟨items, im, hs⟩ := hs
  by_cases hk : Key.staging tr = k
  · subst hk
    rcases storeUpload_at_cases h with h1 | h1
    · exact ⟨items, im, by rw [h1]; exact hs⟩
    · obtain ⟨items', rfl⟩ := ho rfl
      exact ⟨items', imm, h1⟩
  · exact ⟨items, im, by rw [storeUpload_other h hk]; exact hs⟩

theorem Step.staged {s s' : Sys} {e : Ev} (hS : Step s e s') (ht : s'.tampered = false) {tr : Tree}
    (hst : Staged s.store tr) :
    Staged s'.store tr ∨ ∃ i rd, (s.insts i).phase = .round rd ∧ rd.pc = .discard ∧ rd.new.leaves = tr := by
  cases hS.store_cases with
  | same hsame => exact .inl (hsame ▸ hst)
  | upload ev hup =>
    subst ev
    refine .inl (hst.upload hup fun hk => ?_)
    subst hk
    obtain ⟨_, items, u⟩ := hS.upload_staging
    exact ⟨items, u.obj⟩
  | @discard i rd _ _ hph hpc hd =>
    by_cases hk : rd.new.leaves = tr
    · exact .inr ⟨i, rd, hph, hpc, hk⟩
    · obtain ⟨items, im, hs⟩ := hst
      exact .inl ⟨items, im, by rw [hd]; simpa [updK, Ne.symm hk] using hs⟩
  | tamper ev => exact absurd ev ((hS.tampered ht).2 _ _)

/-- `Rec` is stable: a bundle is discarded only after a checkpoint with its tree has been published -/
theorem Step.rec_mono {s s' : Sys} {e : Ev} (hS : Step s e s') (h2 : Inv2 s) (ht : s'.tampered = false)
    {tr : Tree} (hr : Rec s tr) : Rec s' tr := by
  rcases hr with h0 | ⟨p, hp, hpl⟩ | hst
  · exact .inl h0
  · exact .inr (.inl ⟨p, hS.pubHist_sub p hp, hpl⟩)
  · rcases hS.staged ht hst with h | ⟨i, rd, hph, hpc, rfl⟩
    · exact .inr (.inr h)
    · obtain ⟨hpub, hisp⟩ := h2.round i rd hph
      exact .inr (.inl ⟨rd.new, hS.pubHist_sub _ (hpub (by rw [hisp, hpc]; rfl)), rfl⟩)

/-- the `stage` clause is what makes a staged bundle non-empty (`stagedNe`), the `cas` clause what makes a newly
    committed tree recoverable (`hist`) -/
def ROK4 (s : Sys) (x : Inst) : Prop := ∀ rd, x.phase = .round rd →
  (rd.pc = .stage → rd.old.leaves.length < rd.new.leaves.length) ∧
  (rd.pc = .cas → Rec s rd.new.leaves)

structure Inv4 (s : Sys) : Prop where
  hist : ∀ c ∈ s.lockHist, Rec s c.leaves
  round : ∀ i, ROK4 s (s.insts i)
  ckShape : ∀ o imm, s.store .ckpt = some (o, imm) → imm = false ∧ ∃ c, o = .ck c
  ckSome : s.pubHist ≠ [] → ∃ c imm, s.store .ckpt = some (.ck c, imm)
  legacy : ∀ t, s.store (.legacyStaging t) = none
  tiles : ∀ t o imm, s.store (.tile t) = some (o, imm) →
    imm = true ∧ ∃ c ∈ s.lockHist, t.hi ≤ c.leaves.length ∧ o = .slice (t.slice c.leaves)
  stagedNe : ∀ tr o imm, s.store (.staging tr) = some (o, imm) → imm = true ∧ ∃ items, o = .bundle items ∧ items ≠ []

theorem ROK4.congr {s s' : Sys} {x x' : Inst} (hp : x'.phase = x.phase) (hm : ∀ tr, Rec s tr → Rec s' tr)
    (h : ROK4 s x) : ROK4 s' x' :=
  fun rd hrd => ⟨(h rd (hp ▸ hrd)).1, fun hpc => hm _ ((h rd (hp ▸ hrd)).2 hpc)⟩

theorem ROK4.mono {s s' : Sys} (hm : ∀ tr, Rec s tr → Rec s' tr) {x : Inst} (h : ROK4 s x) : ROK4 s' x :=
  h.congr rfl hm

attribute [local simp] setPhase Sys.setInst Sys.pushLock Sys.stored upd in
/-- a round reaches `stage` with a strictly larger tree, and `cas` with the tree it holds (empty pool)
    or with the tree whose bundle it has just staged -/
theorem Step.rok4 {s s' : Sys} {e : Ev} {i : Nat} (hS : Step s e s') (he : e.inst = some i) (h4 : Inv4 s) (h1 : Inv s)
    (hrec : ∀ tr, Rec s tr → Rec s' tr) : ROK4 s' (s'.insts i) := by
  have hi := h4.round i
  have h1i := h1.inst i
  cases hS with
  | clockRound hph hpc hv hs =>
    cases he
    simpa [ROK4, leavesOf] using List.length_pos_iff.2 hs
  | clockRoundEmpty hph hpc hv hs =>
    cases he
    simp only [InstOK, RoundOK, hph] at h1i
    simpa [ROK4, hs, leavesOf] using hrec _ (h4.hist _ h1i.1)
  | @uploadStaging _ rd items st' hph hpc hb hst =>
    cases he
    have : Rec (setPhase (s.stored st') i (.round { rd with pc := .cas, bundle := tilesOfBundle items })) rd.new.leaves :=
      .inr (.inr ⟨items, true, storeUpload_at hst Res.applied_ok⟩)
    simpa [ROK4] using this
  | _ =>
    -- the phase is unchanged, or is not a round in the `stage` or `cas` state
    cases he <;> first | (refine hi.congr ?_ hrec; simp; done) | simp [ROK4]

theorem Step.store_isSome {s s' : Sys} {e : Ev} (hS : Step s e s') (ht : s'.tampered = false)
    (k : Key) (hk : ∀ t, k ≠ .staging t) (hs : (s.store k).isSome) : (s'.store k).isSome := by
  cases hS.store_cases with
  | same hsame => rw [hsame]; exact hs
  | upload _ hup => exact storeUpload_some hup hs
  | @discard _ rd _ _ _ _ hd => rw [hd]; simpa [updK, hk rd.new.leaves] using hs
  | tamper ev => exact absurd ev ((hS.tampered ht).2 _ _)

theorem inv4_step (s s' : Sys) (e : Ev) (h4 : Inv4 s) (h1 : Inv s) (h2 : Inv2 s) (h3 : Inv3 s)
    (h : step s e = some s') (ht : s'.tampered = false) : Inv4 s' := by
  have hS := step_sound h
  have hrec : ∀ tr, Rec s tr → Rec s' tr := fun tr => hS.rec_mono h2 ht
  have hlsub := hS.lockHist_sub
  have hck : ∀ o imm, s'.store .ckpt = some (o, imm) → imm = false ∧ ∃ c, o = .ck c := by
    intro o imm hs
    rcases hS.obj_cases ht hs with h0 | ⟨i, r, rfl⟩
    · exact h4.ckShape o imm h0
    · obtain ⟨himm, c, ho, _⟩ := hS.upload_ckpt
      exact ⟨himm, c, ho⟩
  refine ⟨fun c hc => ?_, fun j => ?_, hck, fun hne => ?_, fun t => ?_, fun t o imm hs => ?_, fun tr o imm hs => ?_⟩
  · -- committed trees stay recoverable; a newly committed one is empty or was proposed at a `cas`
    cases hS.lock_cases with
    | same _ h0 => exact hrec _ (h4.hist c (h0 ▸ hc))
    | @commit i c' _ _ h0 _ hwho =>
      rw [h0] at hc
      rcases List.mem_cons.1 hc with rfl | hc
      · rcases hwho with ⟨hph, _⟩ | ⟨rd, hph, hpc, rfl, _⟩
        · have := h3.inst i
          simp only [SOK, hph] at this
          exact .inl this
        · exact hrec _ ((h4.round i rd hph).2 hpc)
      · exact hrec _ (h4.hist c hc)
  · by_cases hj : e.inst = some j
    · exact hS.rok4 hj h4 h1 hrec
    · rw [hS.others hj]; exact (h4.round j).mono hrec
  · -- `pubHist` grows only together with a write of the checkpoint object, and that object is never removed
    have hsome : (s'.store .ckpt).isSome := by
      cases hS.pub_cases with
      | same hp =>
        obtain ⟨c, imm, hc⟩ := h4.ckSome (hp ▸ hne)
        exact hS.store_isSome ht .ckpt (by simp) (by rw [hc]; rfl)
      | publish _ hck => rw [hck]; rfl
    cases hs : s'.store .ckpt with
    | none => rw [hs] at hsome; cases hsome
    | some p =>
      obtain ⟨o, imm⟩ := p
      obtain ⟨_, c, rfl⟩ := hck o imm hs
      exact ⟨c, imm, rfl⟩
  · -- no rule uploads to a legacy staging key
    cases hs : s'.store (.legacyStaging t) with
    | none => rfl
    | some p =>
      rcases hS.obj_cases ht (o := p.1) (imm := p.2) hs with h0 | ⟨i, r, rfl⟩
      · rw [h4.legacy t] at h0; cases h0
      · rcases hS.upload_key with hk | hk | ⟨_, hk⟩ | ⟨_, hk⟩ | ⟨_, hk⟩ <;> cases hk
  · -- a new tile object renders the new tree of its round, or the lock tree a recovery re-applies
    rcases hS.obj_cases ht hs with h0 | ⟨i, r, rfl⟩
    · obtain ⟨a, c, hc, b⟩ := h4.tiles t o imm h0
      exact ⟨a, c, hlsub c hc, b⟩
    · obtain ⟨himm, hsrc⟩ := hS.upload_tile
      refine ⟨himm, ?_⟩
      have h1i := h1.inst i
      have h3i := h3.inst i
      rcases hsrc with ⟨rd, done, failed, hph, hpc, ho, hmem⟩ | ⟨c, rem, failed, xs, hph, hmem, ho⟩
      · simp only [InstOK, RoundOK, hph, hpc] at h1i
        simp only [SOK, hph, hpc] at h3i
        obtain ⟨_, ⟨_, items, hbi, hb⟩, _⟩ := h3i
        obtain ⟨p, hp, rfl⟩ := List.mem_map.1 (hbi ▸ hmem)
        exact ⟨rd.new, h1i.2 ▸ hlsub _ h1i.1, newAt_hi_le (bundle_newAt hb hp), ho⟩
      · simp only [InstOK, LoadOK, hph] at h1i
        simp only [SOK, hph] at h3i
        obtain ⟨old, items, hb, _, _, hsub, _⟩ := h3i
        have hp := hsub _ hmem
        exact ⟨c, hlsub _ h1i, newAt_hi_le (bundle_newAt hb hp), by rw [ho, show xs = _ from bundle_slice hb hp]⟩
  · -- a new staging object is the non-empty bundle of a round that grows the tree
    rcases hS.obj_cases ht hs with h0 | ⟨i, r, rfl⟩
    · exact h4.stagedNe tr o imm h0
    · obtain ⟨rd, items, u⟩ := hS.upload_staging
      exact ⟨u.imm, items, u.obj, bundleOK_ne_nil u.bundle ((h4.round i rd u.phase).1 u.pc)⟩

theorem inv4_init (p : Nat) : Inv4 (init p) := by
  refine ⟨?_, ?_, ?_, ?_, ?_, ?_, ?_⟩
  · intro c hc; simp [init] at hc
  · intro i rd h; simp [init] at h
  · intro o imm h; simp [init] at h
  · intro h; simp [init] at h
  · intro t; rfl
  · intro t o imm h; simp [init] at h
  · intro tr o imm h; simp [init] at h

theorem inv4_reachable {s : Sys} (h : Reachable s) : s.tampered = false → Inv4 s :=
  h.induction (fun p _ => inv4_init p) fun s e s' r ih hst ht =>
    have ht0 := ((step_sound hst).tampered ht).1
    inv4_step s s' e (ih ht0) (inv_reachable r) (inv2_reachable r) (inv3_reachable r ht0) hst ht

/-- I5; that applying the staged bundle completes the rendering follows from `Inv3.staged` by `complete_of_bundle` -/
theorem Inv4.lockRec {s : Sys} (h4 : Inv4 s) (h1 : Inv s) (h3 : Inv3 s) :
    ∀ c, s.lock = some c → Complete s.store c.leaves ∨
      (∃ items imm, s.store (.staging c.leaves) = some (.bundle items, imm)) := by
  intro c hl
  rcases h4.hist c (lock_mem_hist h1 hl) with h0 | ⟨p, hp, hpl⟩ | hst
  · left; rw [h0]; exact complete_nil _
  · left; rw [← hpl]; exact h3.pub p hp
  · exact Or.inr hst

end Seq
