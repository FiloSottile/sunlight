import Proofs.LocalFSState
/-! # The invariant of the reachable states of C13 and the system calls that keep it. -/
namespace LocalFS

/-- Stated over `cands`, not `durable`, so that it survives `crash` and `fsyncDir`; `WF` and `FreshInodes` are its
durable-only consequences (`Inv.wf`, `Inv.fresh`). -/
structure Inv (s : FS) : Prop where
  root : s.dirs [] ≠ none
  dirRec : ∀ a d n, s.dirs a = some d → some Node.dir ∈ cands d n → s.dirs (a ++ [n]) ≠ none
  inoLt : ∀ a d n i, s.dirs a = some d → some (Node.file i) ∈ cands d n → i < s.next

theorem Inv.wf {s : FS} (h : Inv s) : WF s :=
  ⟨h.root, fun a d n hd hn => h.dirRec a d n hd (hn ▸ durable_mem_cands d n)⟩

theorem Inv.fresh {s : FS} (h : Inv s) : FreshInodes s :=
  fun p d n i hd hn => h.inoLt p d n i hd (hn ▸ durable_mem_cands d n)

theorem Inv.mono {s t : FS} (h : Inv s) (hrec : ∀ a, s.dirs a ≠ none → t.dirs a ≠ none)
    (hc : ∀ a d' n x, t.dirs a = some d' → x ∈ cands d' n → ∃ d, s.dirs a = some d ∧ x ∈ cands d n)
    (hn : s.next ≤ t.next) : Inv t :=
  ⟨hrec _ h.root,
    fun a d' n hd' hm => let ⟨d, hd, hm⟩ := hc a d' n _ hd' hm; hrec _ (h.dirRec a d n hd hm),
    fun a d' n i hd' hm => let ⟨d, hd, hm⟩ := hc a d' n _ hd' hm; Nat.lt_of_lt_of_le (h.inoLt a d n i hd hm) hn⟩

theorem Inv.crash {s : FS} (h : Inv s) (c : CrashChoice) : Inv (crash c s) := by
  refine h.mono (fun a ha => ?_) (fun a d' n x hd' hx => ?_) (Nat.le_refl _)
  · rw [crash_dirs]; cases hd : s.dirs a <;> simp_all
  · rw [crash_dirs] at hd'
    cases hd : s.dirs a with
    | none => simp [hd] at hd'
    | some d =>
      simp only [hd, Option.map_some, Option.some.injEq] at hd'
      subst hd'
      rw [crashDir, cands_nil_pending, List.mem_singleton] at hx
      exact ⟨d, rfl, hx ▸ applyMask_mem n _ _ _⟩

theorem Inv.setDir {s : FS} (h : Inv s) (p : Path) (d' : Dir)
    (hdir : ∀ n, some Node.dir ∈ cands d' n → s.dirs (p ++ [n]) ≠ none)
    (hfile : ∀ n i, some (Node.file i) ∈ cands d' n → i < s.next) : Inv (s.setDir p d') := by
  have hne : ∀ q, s.dirs q ≠ none → (s.setDir p d').dirs q ≠ none := fun q hq => by
    simp only [FS.setDir]; split <;> simp [hq]
  refine ⟨hne _ h.root, fun a d n hd hm => hne _ ?_, fun a d n i hd hm => ?_⟩ <;>
    simp only [FS.setDir] at hd <;> split at hd
  · cases hd; subst a; exact hdir n hm
  · exact h.dirRec a d n hd hm
  · cases hd; exact hfile n i hm
  · exact h.inoLt a d n i hd hm

theorem Inv.change {s : FS} (h : Inv s) (p : Path) (c : Change)
    (hdir : c.2 = some .dir → s.dirs (p ++ [c.1]) ≠ none)
    (hfile : ∀ i, c.2 = some (.file i) → i < s.next) : Inv (s.change p c) := by
  unfold FS.change
  cases hd : s.dirs p with
  | none => exact h
  | some d =>
    refine h.setDir p _ (fun n hm => ?_) (fun n i hm => ?_) <;>
      rw [cands_append_pending] at hm <;> rcases List.mem_append.1 hm with hm | hm
    · exact h.dirRec p d n hd hm
    · split at hm
      · rename_i hcn; rw [List.mem_singleton] at hm; exact hcn ▸ hdir hm.symm
      · cases hm
    · exact h.inoLt p d n i hd hm
    · split at hm
      · rw [List.mem_singleton] at hm; exact hfile i hm.symm
      · cases hm

theorem Inv.remove {s : FS} (h : Inv s) (p : Path) (n : Name) : Inv (s.change p (n, none)) :=
  h.change p _ (fun hc => by cases hc) (fun i hi => by cases hi)

theorem Inv.fsyncDir {s : FS} (h : Inv s) (p : Path) : Inv (step s (.fsyncDir p)) := by
  simp only [step]
  cases hd : s.dirs p with
  | none => exact h
  | some d =>
    have hc : ∀ n x, x ∈ cands { durable := d.vol, pending := [] } n → x ∈ cands d n := fun n x hx => by
      rw [cands_nil_pending, List.mem_singleton] at hx
      exact hx ▸ vol_mem_cands d n
    exact h.setDir p _ (fun n hm => h.dirRec p d n hd (hc n _ hm)) (fun n i hm => h.inoLt p d n i hd (hc n _ hm))

theorem Inv.mkdir {s : FS} (h : Inv s) (p : Path) (hp : p ≠ []) : Inv (step s (.mkdir p)) := by
  simp only [step]
  refine (h.setDir p Dir.empty (by simp [Dir.empty]) (by simp [Dir.empty])).change _ _ (fun _ => ?_)
    (fun i hi => by cases hi)
  rw [← path_split p hp]; simp [FS.setDir]

theorem Inv.of_dirs_eq {s t : FS} (h : Inv s) (hd : t.dirs = s.dirs) (hn : s.next ≤ t.next) : Inv t :=
  h.mono (fun _ => by rw [hd]; exact id) (fun _ d' _ _ hd' hx => ⟨d', hd ▸ hd', hx⟩) hn

theorem Inv.modFile {s : FS} (h : Inv s) (i : Nat) (g : File → File) : Inv (s.modFile i g) :=
  h.of_dirs_eq (by simp) (by simp)

theorem Inv.creat {s : FS} (h : Inv s) (p : Path) (i : Nat) : Inv (step s (.creat p i)) := by
  -- bump `next` first: recording the entry needs `i < next`
  have h1 : Inv { s.setFile i { data := [], synced := false, mode := 0o600, immutable := false } with
      next := Nat.max s.next (i + 1) } := h.of_dirs_eq rfl (Nat.le_max_left _ _)
  refine (h1.change (parentOf p) (baseOf p, some (.file i)) (fun hc => by cases hc) fun j hj => ?_).of_dirs_eq ?_ ?_
  · cases hj; exact Nat.lt_of_lt_of_le (Nat.lt_succ_self _) (Nat.le_max_right _ _)
  · simp only [step, change_eq_mapDir]; funext q; simp [mapDir_dirs, FS.setFile]
  · simp [step, change_eq_mapDir]

/-- `e` keeps the invariant in any state whose `next` is at least `lb`: a directory made is not the
world root, an inode renamed into place is below `lb`. Renaming a directory is refused outright: the target would
need a record, and no program of the model does it. -/
def Sys.okAt (lb : Nat) : Sys → Bool
  | .mkdir p => !p.isEmpty
  | .rename _ _ (.file i) true => decide (i < lb)
  | .rename _ _ .dir true => false
  | _ => true

theorem Inv.step {s : FS} (h : Inv s) (e : Sys) (he : e.okAt s.next = true) : Inv (step s e) := by
  cases e with
  | creat p i => exact h.creat p i
  | mkdir p => exact h.mkdir p (by simpa [Sys.okAt] using he)
  | fsyncDir p => exact h.fsyncDir p
  | rename a b nd ok =>
    cases ok with
    | false => exact h
    | true =>
      cases nd with
      | dir => cases he
      | file i =>
        refine (h.change _ _ (fun hc => by cases hc) fun j hj => ?_).remove _ _
        cases hj; simpa [Sys.okAt] using he
  | unlink p => exact h.remove _ _
  | rmdir p ok =>
    cases ok with
    | false => exact h
    | true => exact h.remove _ _
  | fchmod | write | fsync | setImmutable => exact h.modFile _ _
  | _ => exact h

theorem Sys.okAt_mono {e : Sys} {lb lb' : Nat} (h : lb ≤ lb') (he : e.okAt lb = true) : e.okAt lb' = true := by
  cases e with
  | rename a b nd ok =>
    cases ok <;> cases nd <;> simp_all [Sys.okAt]
    omega
  | _ => exact he

theorem Inv.safeAlong {s : FS} (h : Inv s) (lb : Nat) (hlb : lb ≤ s.next) (tr : List Sys)
    (hok : ∀ e ∈ tr, e.okAt lb = true) : SafeAlong Inv s tr := by
  induction tr generalizing s with
  | nil => exact .nil h
  | cons e tr ih =>
    exact .cons h (ih (h.step e (Sys.okAt_mono hlb (hok e (by simp))))
      (Nat.le_trans hlb (step_next_le s e)) fun x hx => hok x (by simp [hx]))

theorem Sys.okAt_of_inert {e : Sys} (lb : Nat) (h : e.inert = true) : e.okAt lb = true := by
  cases e with
  | mkdir p => cases h
  | rename a b nd ok =>
    cases ok
    · cases nd <;> rfl
    · cases h
  | _ => rfl

end LocalFS
