import Model.Sequencer
/-! Tile arithmetic of the sequencer model: which tiles a tree of a given size needs (`Req`), which ones
a growth step writes (`NewAt`, `newTilesList`), and that the former are covered by the latter plus the
tiles the old tree already needed, with unchanged content. Sizes and levels are arbitrary, except where the
enumerated list enters: `levelsFor` lists eight levels, so `mem_newTilesList` asks for `t.kind.level < 8`. -/
namespace Seq

theorem req_hi_le {o : Nat} {t : TileId} (h : Req o t = true) : t.hi ≤ o := by
  unfold Req at h
  simp only [Bool.or_eq_true, Bool.and_eq_true, beq_iff_eq, decide_eq_true_eq] at h
  unfold TileId.hi
  generalize hP : 256 ^ t.kind.level = P at *
  have hm : o / P * P ≤ o := Nat.div_mul_le_self _ _
  generalize hM : o / P = m at *
  have h1 : t.N * 256 + t.W ≤ m := by
    clear hP hM hm
    rcases h with ⟨hw, hn⟩ | ⟨⟨hn, hw⟩, _⟩
    · have := Nat.div_mul_le_self m 256
      have h2 : (t.N + 1) * 256 ≤ m / 256 * 256 := Nat.mul_le_mul_right _ hn
      rw [hw, ← Nat.succ_mul]; exact Nat.le_trans h2 this
    · rw [hn, hw]; omega
  exact Nat.le_trans (Nat.mul_le_mul_right _ h1) hm

theorem req_cover {o n : Nat} {t : TileId} (hon : o ≤ n) (h : Req n t = true) :
    NewAt o n t = true ∨ Req o t = true := by
  unfold Req at h
  unfold NewAt Req
  simp only [Bool.or_eq_true, Bool.and_eq_true, beq_iff_eq, decide_eq_true_eq, bne_iff_ne, ne_eq] at *
  generalize hP : 256 ^ t.kind.level = P at *
  generalize hA : o / P = a at *
  generalize hB : n / P = b at *
  by_cases heq : a = b
  · right; rw [heq]; exact h
  · rcases h with ⟨hw, hn⟩ | ⟨⟨hn, hw⟩, hpos⟩
    · by_cases hlt : t.N < a / 256
      · right; left; exact ⟨hw, hlt⟩
      · left; exact ⟨heq, Or.inl ⟨⟨hw, Nat.le_of_not_lt hlt⟩, hn⟩⟩
    · left; exact ⟨heq, Or.inr ⟨⟨hn, hw⟩, hpos⟩⟩

theorem lo_le_hi (t : TileId) : t.lo ≤ t.hi := by
  unfold TileId.lo TileId.hi
  rw [Nat.pow_succ]
  calc t.N * (256 ^ t.kind.level * 256) = t.N * 256 * 256 ^ t.kind.level := by
        rw [Nat.mul_comm (256 ^ t.kind.level) 256, Nat.mul_assoc]
    _ ≤ (t.N * 256 + t.W) * 256 ^ t.kind.level := Nat.mul_le_mul_right _ (Nat.le_add_right _ _)

theorem slice_prefix {tr tr' : Tree} {t : TileId} (hp : tr <+: tr') (hhi : t.hi ≤ tr.length) :
    t.slice tr' = t.slice tr := by
  have hlo := lo_le_hi t
  obtain ⟨ext, rfl⟩ := hp
  unfold TileId.slice Seq.slice
  rw [List.drop_append_of_le_length (by omega)]
  rw [List.take_append_of_le_length (by simp; omega)]

theorem slice_stable {tr tr' : Tree} {t : TileId} (hp : tr <+: tr') (h : Req tr.length t = true) :
    t.slice tr' = t.slice tr :=
  slice_prefix hp (req_hi_le h)

theorem mem_newAtLevel {o n : Nat} {t : TileId} (h : NewAt o n t = true) : t ∈ newAtLevel o n t.kind := by
  unfold NewAt at h
  unfold newAtLevel
  simp only [Bool.or_eq_true, Bool.and_eq_true, beq_iff_eq, decide_eq_true_eq, bne_iff_ne, ne_eq] at h
  generalize hP : 256 ^ t.kind.level = P at *
  generalize hA : o / P = a at *
  generalize hB : n / P = b at *
  obtain ⟨hne, hc⟩ := h
  simp only [hne, if_false, List.mem_append, List.mem_map, List.mem_range]
  rcases hc with ⟨⟨hw, hlo⟩, hhi⟩ | ⟨⟨hn, hw⟩, hpos⟩
  · left
    refine ⟨t.N - a / 256, by omega, ?_⟩
    have : a / 256 + (t.N - a / 256) = t.N := by omega
    rw [this]
    cases t; simp_all
  · right
    have : b % 256 > 0 := by omega
    simp only [this, if_true, List.mem_singleton]
    cases t; simp_all

/-- every tile a growth step must write (levels below 8, i.e. any tree that fits a 64-bit size) is in the
    enumerated list the bundle is compared with -/
theorem mem_newTilesList {o n : Nat} {t : TileId} (h : NewAt o n t = true) (hl : t.kind.level < 8) :
    t ∈ newTilesList o n := by
  have hm := mem_newAtLevel h
  unfold newTilesList
  cases hk : t.kind with
  | data => rw [hk] at hm; simp [hm]
  | names => rw [hk] at hm; simp [hm]
  | hash L =>
    rw [hk] at hm
    simp only [List.mem_append, List.mem_flatMap]
    right
    refine ⟨L, ?_, hm⟩
    unfold levelsFor
    simp only [List.mem_filter, List.mem_range, decide_eq_true_eq]
    have hL : L < 8 := by simpa [hk, TKind.level] using hl
    refine ⟨hL, ?_⟩
    -- `levelsFor` keeps `L` only if `256 ^ L ≤ n`: a tile `NewAt` selects at level `L` means the new tree has a hash there
    unfold NewAt at h
    simp only [Bool.or_eq_true, Bool.and_eq_true, beq_iff_eq, decide_eq_true_eq, bne_iff_ne, ne_eq, hk, TKind.level] at h
    have hp : 0 < 256 ^ L := Nat.pow_pos (by decide)
    have hb : 0 < n / 256 ^ L := by
      generalize n / 256 ^ L = b at *
      generalize o / 256 ^ L = a at *
      obtain ⟨_, hc⟩ := h
      rcases hc with ⟨⟨_, _⟩, hhi⟩ | ⟨⟨hn, hw⟩, hpos⟩
      · have := Nat.div_mul_le_self b 256; omega
      · have := Nat.mod_le b 256; omega
    exact (Nat.le_div_iff_mul_le hp).1 hb |> fun h => by simpa using h

theorem newAt_req {o n : Nat} {t : TileId} (h : NewAt o n t = true) : Req n t = true := by
  unfold NewAt at h
  unfold Req
  simp only [Bool.or_eq_true, Bool.and_eq_true, beq_iff_eq, decide_eq_true_eq, bne_iff_ne, ne_eq] at *
  obtain ⟨_, hc⟩ := h
  rcases hc with ⟨⟨hw, _⟩, hhi⟩ | hc
  · exact Or.inl ⟨hw, hhi⟩
  · exact Or.inr hc

theorem newAt_hi_le {o n : Nat} {t : TileId} (h : NewAt o n t = true) : t.hi ≤ n := req_hi_le (newAt_req h)

theorem newAtLevel_data_ne_nil {o n : Nat} (h : o < n) : newAtLevel o n .data ≠ [] := by
  unfold newAtLevel
  simp only [TKind.level, Nat.pow_zero, Nat.div_one]
  have hne : ¬ o = n := by omega
  simp only [hne, if_false]
  by_cases hm : n % 256 > 0
  · simp [hm]
  · have h0 : n % 256 = 0 := by omega
    intro hnil
    have hl := congrArg List.length hnil
    simp at hl
    omega

theorem newTilesList_ne_nil {o n : Nat} (h : o < n) : newTilesList o n ≠ [] := by
  unfold newTilesList
  intro hnil
  have := newAtLevel_data_ne_nil h
  simp only [List.append_eq_nil_iff] at hnil
  exact this hnil.1.1

end Seq
