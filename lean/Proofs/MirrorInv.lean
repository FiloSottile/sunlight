import Proofs.MirrorTiles
import Proofs.Witness
/-! The invariant `MInv` of the mirror transition system (`Model/Mirror.lean`) and the relations between two
states that its steps are described with: `SameCtl` (only the tile store changed), `Frame` (only process
state, requests and tickets changed), `MGrow` (the mirror history grew by at most one tree head). -/
namespace Mirror
open Merkle Witness

variable (node : Hash → Hash → Hash) (emptyHash : Hash) (leaf : Entry → Hash)

/-- `Truth` of a chain that is not the chain of a state: `truth_back` and `MInv.extend` compare two chains.
`Truth st E` unfolds to `TruthH … st.w.hist E` (`truth_iff` is `Iff.rfl`), and `Props/C15.lean` passes the one
for the other. -/
def TruthH (hist : List (Nat × Hash)) (E : List Entry) : Prop :=
  ∃ k, hist.getLast? = some k ∧ Opens node emptyHash k (E.map leaf)

theorem truth_iff (st : MState) (E : List Entry) :
    Truth node emptyHash leaf st E ↔ TruthH node emptyHash leaf st.w.hist E := Iff.rfl

theorem pairwise_last {α : Type} {R : α → α → Prop} (hr : ∀ a, R a a) {l : List α} (hp : l.Pairwise R)
    {a z : α} (ha : a ∈ l) (hz : l.getLast? = some z) : R a z := by
  obtain ⟨ys, rfl⟩ := List.getLast?_eq_some_iff.1 hz
  rcases List.mem_append.1 ha with h | h
  · exact (List.pairwise_append.1 hp).2.2 a h z (by simp)
  · rw [List.mem_singleton.1 h]; exact hr z

variable {node emptyHash} in
theorem mem_le_last {hist : List (Nat × Hash)} (hc : hist.Pairwise (Consistent node emptyHash))
    {k kl : Nat × Hash} (hk : k ∈ hist) (hl : hist.getLast? = some kl) : k.1 ≤ kl.1 :=
  (pairwise_last Consistent.refl hc hk hl).1

theorem truth_mem {hist : List (Nat × Hash)} (hc : hist.Pairwise (Consistent node emptyHash))
    {E : List Entry} (ht : TruthH node emptyHash leaf hist E) {k : Nat × Hash} (hk : k ∈ hist) :
    k.1 ≤ E.length ∧ k.2 = mth node emptyHash ((E.map leaf).take k.1) := by
  obtain ⟨kl, hl, ho⟩ := ht
  have hcons := pairwise_last Consistent.refl hc hk hl
  have hlen : kl.1 = E.length := by rw [← ho.1]; simp
  exact ⟨by rw [← hlen]; exact hcons.1, (hcons.2 _ ho).2.symm⟩

/-! ### the invariant -/

def payloadCk (o : Bytes) : Payload → Option (Nat × Hash)
  | .empty => none
  | .pend note _ => ckOfNote o note
  | .mir ck _ => some ck

/-- the upload frontier, as a maximum: `nextEntry` once set (`CtlInv.top_eq`), until then the mirror size `fetchMirror`
will set it to -/
def top (st : MState) : Nat := max (st.next.getD 0) (mirrorCk emptyHash st.mlock).1

def DataOK (E : List Entry) (dataT : Nat → Nat → Option (List Entry)) : Prop :=
  ∀ n w es, dataT n w = some es → es = bundleOf E n w ∧ 256 * n + w ≤ E.length

def Complete (st : MState) (M : Nat) : Prop :=
  ∀ l n w, IsTile M l n w → (st.hash l n w).isSome ∧ (l = 0 → (st.data n w).isSome)

structure ReqInv (c : MCfg) (st : MState) (r : Req) : Prop where
  ck : r.ck ∈ st.w.hist
  stop : r.stop = r.ck.1
  le : r.start ≤ r.stop
  pay : ∀ k, payloadCk c.origin r.payload = some k → k ∈ st.w.hist
  ile : r.i ≤ r.numPackages
  -- the frontier has reached the package about to be read (the metadata step demands `start ≤ nextEntry`, each
  -- package advances it): the tree up to that package is complete (`StoreInv.comp`), the package adds the rest
  nx : ∃ x, st.next = some x ∧ (r.i < r.numPackages → r.rs + 256 * r.i ≤ x)
  ovlen : r.rs + r.ov.length = min (r.rs + 256 * r.i) r.stop
  ov : ∀ E, TruthH node emptyHash leaf st.w.hist E → r.ov = rng (E.map leaf) r.rs (r.rs + r.ov.length)

/-- the part of the invariant that does not look at the tile store -/
structure CtlInv (c : MCfg) (st : MState) : Prop where
  wi : Witness.Inv node emptyHash c.origin st.w
  hne : st.w.hist ≠ []
  cache : ∀ v k, st.w.cache 0 = some v → ckOf emptyHash c.origin v = some k → k ∈ st.w.hist
  mh : ∀ k ∈ st.mhist, k ∈ st.w.hist
  mlast : st.mhist.getLast? = st.mlock.map (·.1)
  mmono : st.mhist.Pairwise (fun a b => a.1 ≤ b.1)
  -- one live process: nothing else writes the mirror's lock store
  mc : ∀ v, st.mcache = some v → v = st.mlock
  nx : ∀ x, st.next = some x → (mirrorCk emptyHash st.mlock).1 ≤ x ∧ ∃ k ∈ st.w.hist, x ≤ k.1
  rq : ∀ rid r, st.reqs rid = some r → ReqInv node emptyHash leaf c st r
  tk : ∀ t ∈ st.issued, ∀ k, payloadCk c.origin t.payload = some k → k ∈ st.w.hist
  rel : ∀ k ∈ st.released, k ∈ st.mhist
  pub : ∀ k, st.mpub = some k → k ∈ st.mhist

structure StoreInv (st : MState) : Prop where
  data : ∀ E, TruthH node emptyHash leaf st.w.hist E → DataOK E st.data
  hash : ∀ E, TruthH node emptyHash leaf st.w.hist E → HashOK node emptyHash (E.map leaf) st.hash
  comp : ∀ M, M % 256 = 0 → M ≤ top emptyHash st → Complete st M
  -- the partial tile at each mirror size (`ensureCutTiles`); `comp` speaks of aligned sizes only
  cut : ∀ k ∈ st.mhist, k.1 % 256 ≠ 0 → (st.hash 0 (k.1 / 256) (k.1 % 256)).isSome
  -- the package upload loop and `ensureCutTiles` both put the entry bundle before its level-0 hash tile; `C15_resume` reads the bundle
  h2d : ∀ n w, (st.hash 0 n w).isSome → (st.data n w).isSome

structure MInv (c : MCfg) (st : MState) : Prop where
  ctl : CtlInv node emptyHash leaf c st
  store : StoreInv node emptyHash leaf st

section
variable {node emptyHash leaf} {c : MCfg} {st : MState}

theorem CtlInv.mirrorCk_last (hc : CtlInv node emptyHash leaf c st) (h : st.mlock ≠ none) :
    st.mhist.getLast? = some (mirrorCk emptyHash st.mlock) := by
  have hl := hc.mlast
  cases hm : st.mlock with
  | none => exact absurd hm h
  | some p => rw [hm] at hl; exact hl

theorem CtlInv.mirrorCk_mem (hc : CtlInv node emptyHash leaf c st) (h : st.mlock ≠ none) :
    mirrorCk emptyHash st.mlock ∈ st.mhist :=
  List.mem_of_getLast? (hc.mirrorCk_last h)

theorem CtlInv.mhist_nil (hc : CtlInv node emptyHash leaf c st) (h : st.mlock = none) : st.mhist = [] := by
  have hl := hc.mlast
  rw [h] at hl
  exact List.getLast?_eq_none_iff.1 hl

theorem CtlInv.le_mirrorCk (hc : CtlInv node emptyHash leaf c st) {k : Nat × Hash} (hk : k ∈ st.mhist) :
    k.1 ≤ (mirrorCk emptyHash st.mlock).1 := by
  by_cases h : st.mlock = none
  · rw [hc.mhist_nil h] at hk; cases hk
  · exact pairwise_last (R := fun a b => a.1 ≤ b.1) (fun _ => Nat.le_refl _) hc.mmono hk (hc.mirrorCk_last h)

theorem CtlInv.top_eq (hc : CtlInv node emptyHash leaf c st) {x : Nat} (hn : st.next = some x) :
    top emptyHash st = x := by
  unfold top
  rw [hn]
  exact Nat.max_eq_left (hc.nx x hn).1

theorem CtlInv.mirrorCk_le (hc : CtlInv node emptyHash leaf c st) {n : Nat} (h : ∀ k ∈ st.mhist, k.1 ≤ n) :
    (mirrorCk emptyHash st.mlock).1 ≤ n := by
  by_cases hm : st.mlock = none
  · rw [hm]; exact Nat.zero_le _
  · exact h _ (hc.mirrorCk_mem hm)

end

theorem StoreInv.data_eq {node emptyHash leaf} {st : MState} (hs : StoreInv node emptyHash leaf st) {E : List Entry}
    (hE : TruthH node emptyHash leaf st.w.hist E) {n w : Nat} (h : (st.data n w).isSome) :
    st.data n w = some (bundleOf E n w) := by
  obtain ⟨x, hx⟩ := Option.isSome_iff_exists.1 h
  rw [hx, (hs.data E hE n w x hx).1]

theorem StoreInv.hash_eq {node emptyHash leaf} {st : MState} (hs : StoreInv node emptyHash leaf st) {E : List Entry}
    (hE : TruthH node emptyHash leaf st.w.hist E) {l n w : Nat} (h : (st.hash l n w).isSome) :
    st.hash l n w = some (tileOf node emptyHash (E.map leaf) l n w) := by
  obtain ⟨x, hx⟩ := Option.isSome_iff_exists.1 h
  rw [hx, (hs.hash E hE l n w x hx).1]

/-- what the invariant is for -/
theorem MInv.serves {node emptyHash leaf} {c : MCfg} {st : MState} (hi : MInv node emptyHash leaf c st)
    {E : List Entry} (hE : TruthH node emptyHash leaf st.w.hist E) {ck : Nat × Hash} (hck : ck ∈ st.mhist) :
    Serves node emptyHash leaf st E ck.1 := by
  obtain ⟨hc, hs⟩ := hi
  intro l n w ht
  -- the tiles of the tree cut down to a multiple of 256 lie below the frontier; the cut tile is kept apart
  have hml := hc.le_mirrorCk hck
  have hcomp := hs.comp (ck.1 - ck.1 % 256) (by omega) (by unfold top; omega)
  have hpres : (st.hash l n w).isSome ∧ (l = 0 → (st.data n w).isSome) := by
    rcases isTile_floor ht with h | ⟨rfl, rfl, rfl, hne⟩
    · exact hcomp _ _ _ h
    · have := hs.cut ck hck hne
      exact ⟨this, fun _ => hs.h2d _ _ this⟩
  exact ⟨hs.hash_eq hE hpres.1, fun hl => hs.data_eq hE (hpres.2 hl)⟩

section
variable {node emptyHash leaf}

theorem ReqInv.mono {c : MCfg} {a b : MState} {r : Req} (h : ReqInv node emptyHash leaf c a r)
    (hw : b.w.hist = a.w.hist) (hn : ∀ x, a.next = some x → ∃ y, b.next = some y ∧ x ≤ y) :
    ReqInv node emptyHash leaf c b r := by
  obtain ⟨x, hx, hx'⟩ := h.nx
  obtain ⟨y, hy, hxy⟩ := hn x hx
  exact { h with ck := hw ▸ h.ck, pay := hw ▸ h.pay, ov := hw ▸ h.ov,
                 nx := ⟨y, hy, fun hlt => Nat.le_trans (hx' hlt) hxy⟩ }

theorem ReqInv.congr {c : MCfg} {a b : MState} {r : Req} (h : ReqInv node emptyHash leaf c a r)
    (hw : b.w.hist = a.w.hist) (hn : b.next = a.next) : ReqInv node emptyHash leaf c b r :=
  h.mono hw fun x hx => ⟨x, hn ▸ hx, Nat.le_refl x⟩

theorem CtlInv.rq_congr {c : MCfg} {a b : MState} (hc : CtlInv node emptyHash leaf c a)
    (hw : b.w.hist = a.w.hist) (hn : b.next = a.next) (hr : b.reqs = a.reqs) :
    ∀ rid r, b.reqs rid = some r → ReqInv node emptyHash leaf c b r :=
  fun rid r h => (hc.rq rid r (hr ▸ h)).congr hw hn

end

/-! ### states that differ only in the tile store (and the operation log) -/

structure SameCtl (a b : MState) : Prop where
  w : b.w = a.w
  mlock : b.mlock = a.mlock
  mpub : b.mpub = a.mpub
  enforce : b.enforce = a.enforce
  key : b.key = a.key
  mcache : b.mcache = a.mcache
  next : b.next = a.next
  reqs : b.reqs = a.reqs
  serial : b.serial = a.serial
  mhist : b.mhist = a.mhist
  issued : b.issued = a.issued
  released : b.released = a.released

theorem SameCtl.update {a : MState} {d : Nat → Nat → Option (List Entry)} {h : Nat → Nat → Nat → Option (List Hash)}
    {lg : List MEffect} : SameCtl a { a with data := d, hash := h, log := lg } :=
  ⟨rfl, rfl, rfl, rfl, rfl, rfl, rfl, rfl, rfl, rfl, rfl, rfl⟩

theorem SameCtl.refl (a : MState) : SameCtl a a := .update

theorem SameCtl.trans {a b c : MState} (h1 : SameCtl a b) (h2 : SameCtl b c) : SameCtl a c :=
  ⟨h2.w.trans h1.w, h2.mlock.trans h1.mlock, h2.mpub.trans h1.mpub, h2.enforce.trans h1.enforce,
   h2.key.trans h1.key, h2.mcache.trans h1.mcache, h2.next.trans h1.next, h2.reqs.trans h1.reqs,
   h2.serial.trans h1.serial, h2.mhist.trans h1.mhist, h2.issued.trans h1.issued, h2.released.trans h1.released⟩

theorem SameCtl.eq {a b : MState} (h : SameCtl a b) : b = { a with data := b.data, hash := b.hash, log := b.log } := by
  cases a; cases b
  obtain ⟨rfl, rfl, rfl, rfl, rfl, rfl, rfl, rfl, rfl, rfl, rfl, rfl⟩ := h
  rfl

variable {node emptyHash leaf} in
theorem ctlInv_sameCtl {c : MCfg} {a b : MState} (h : SameCtl a b)
    (hi : CtlInv node emptyHash leaf c a) : CtlInv node emptyHash leaf c b := by
  rw [h.eq]
  exact { hi with rq := hi.rq_congr rfl rfl rfl }

variable {emptyHash} in
theorem top_sameCtl {a b : MState} (h : SameCtl a b) : top emptyHash b = top emptyHash a := by
  unfold top; rw [h.next, h.mlock]

structure StoreLe (a b : MState) : Prop where
  data : ∀ n w, (a.data n w).isSome → (b.data n w).isSome
  hash : ∀ l n w, (a.hash l n w).isSome → (b.hash l n w).isSome

theorem StoreLe.refl (a : MState) : StoreLe a a := ⟨fun _ _ h => h, fun _ _ _ h => h⟩

theorem StoreLe.trans {a b c : MState} (h1 : StoreLe a b) (h2 : StoreLe b c) : StoreLe a c :=
  ⟨fun n w h => h2.data n w (h1.data n w h), fun l n w h => h2.hash l n w (h1.hash l n w h)⟩

theorem complete_le {a b : MState} (h : StoreLe a b) {M : Nat} (hc : Complete a M) : Complete b M :=
  fun l n w ht => ⟨h.hash l n w (hc l n w ht).1, fun hl => h.data n w ((hc l n w ht).2 hl)⟩

variable {node emptyHash leaf} in
theorem storeInv_of {a b : MState} (hs : SameCtl a b) (hle : StoreLe a b)
    (hd : ∀ E, TruthH node emptyHash leaf a.w.hist E → ∀ n w es, b.data n w = some es →
      a.data n w = some es ∨ (es = bundleOf E n w ∧ 256 * n + w ≤ E.length))
    (hh : ∀ E, TruthH node emptyHash leaf a.w.hist E → ∀ l n w x, b.hash l n w = some x →
      a.hash l n w = some x ∨ (x = tileOf node emptyHash (E.map leaf) l n w ∧ (256 * n + w) * 256 ^ l ≤ (E.map leaf).length))
    (h2 : ∀ n w, (b.hash 0 n w).isSome → (a.hash 0 n w).isSome ∨ (b.data n w).isSome)
    (hi : StoreInv node emptyHash leaf a) : StoreInv node emptyHash leaf b where
  data E hE n w es he := by
    rw [hs.w] at hE
    exact (hd E hE n w es he).elim (hi.data E hE n w es) id
  hash E hE l n w x hx := by
    rw [hs.w] at hE
    exact (hh E hE l n w x hx).elim (hi.hash E hE l n w x) id
  comp M hM hle' := complete_le hle (hi.comp M hM (top_sameCtl hs ▸ hle'))
  cut k hk hk' := hle.hash _ _ _ (hi.cut k (hs.mhist ▸ hk) hk')
  h2d n w h := (h2 n w h).elim (fun h' => hle.data n w (hi.h2d n w h')) id

/-! ### states that differ only in process state, requests in flight and tickets -/

structure Frame (a b : MState) : Prop where
  hist : b.w.hist = a.w.hist
  mlock : b.mlock = a.mlock
  mpub : b.mpub = a.mpub
  data : b.data = a.data
  hash : b.hash = a.hash
  enforce : b.enforce = a.enforce
  key : b.key = a.key
  serial : b.serial = a.serial
  mhist : b.mhist = a.mhist
  released : b.released = a.released

theorem Frame.update {a : MState} {w' : OState} {mc : Option MVal} {nx : Option Nat} {rq : Nat → Option Req}
    {is : List Ticket} {lg : List MEffect} (h : w'.hist = a.w.hist) :
    Frame a { a with w := w', mcache := mc, next := nx, reqs := rq, issued := is, log := lg } :=
  ⟨h, rfl, rfl, rfl, rfl, rfl, rfl, rfl, rfl, rfl⟩

theorem Frame.refl (a : MState) : Frame a a := .update rfl

theorem Frame.trans {a b c : MState} (h1 : Frame a b) (h2 : Frame b c) : Frame a c :=
  ⟨h2.hist.trans h1.hist, h2.mlock.trans h1.mlock, h2.mpub.trans h1.mpub, h2.data.trans h1.data,
   h2.hash.trans h1.hash, h2.enforce.trans h1.enforce, h2.key.trans h1.key, h2.serial.trans h1.serial,
   h2.mhist.trans h1.mhist, h2.released.trans h1.released⟩

def MSame (a b : MState) : Prop := b.mhist = a.mhist ∧ b.mlock = a.mlock

def MGrow (a b : MState) : Prop :=
  MSame a b ∨ ∃ ck n, b.mhist = a.mhist ++ [ck] ∧ b.mlock = some (ck, n)

theorem MSame.rfl' (a : MState) : MSame a a := ⟨rfl, rfl⟩

theorem MSame.trans {a b c : MState} (h1 : MSame a b) (h2 : MSame b c) : MSame a c :=
  ⟨h2.1.trans h1.1, h2.2.trans h1.2⟩

theorem MGrow.of_same_left {a b c : MState} (h1 : MSame a b) (h2 : MGrow b c) : MGrow a c := by
  rcases h2 with h | ⟨ck, n, e1, e2⟩
  · exact Or.inl (h1.trans h)
  · exact Or.inr ⟨ck, n, by rw [e1, h1.1], e2⟩

theorem SameCtl.msame {a b : MState} (h : SameCtl a b) : MSame a b := ⟨h.mhist, h.mlock⟩
theorem Frame.msame {a b : MState} (h : Frame a b) : MSame a b := ⟨h.mhist, h.mlock⟩

/-! ### the two tile uploads -/

theorem Fault.eq_ok {f : Fault} (h : f.isOk = true) : f = .ok := by
  cases f <;> first | rfl | cases h

theorem Fault.applied_of_isOk {f : Fault} (h : f.isOk = true) : f.applied = true :=
  Fault.eq_ok h ▸ rfl

theorem putData_sameCtl (st : MState) (n w : Nat) (es : List Entry) (f : Fault) :
    SameCtl st (putData st n w es f).1 := .update

theorem putHash_sameCtl (st : MState) (l n w : Nat) (hs : List Hash) (f : Fault) :
    SameCtl st (putHash st l n w hs f).1 := .update

theorem putData_m (st : MState) (n w : Nat) (es : List Entry) (f : Fault) : MSame st (putData st n w es f).1 := ⟨rfl, rfl⟩
theorem putHash_m (st : MState) (l n w : Nat) (hs : List Hash) (f : Fault) : MSame st (putHash st l n w hs f).1 := ⟨rfl, rfl⟩

theorem putData_hash (st : MState) (n w : Nat) (es : List Entry) (f : Fault) :
    (putData st n w es f).1.hash = st.hash := rfl

theorem putHash_data (st : MState) (l n w : Nat) (hs : List Hash) (f : Fault) :
    (putHash st l n w hs f).1.data = st.data := rfl

theorem putData_data (st : MState) (n w : Nat) (es : List Entry) (f : Fault) (n' w' : Nat) :
    (putData st n w es f).1.data n' w' = st.data n' w' ∨
      (n' = n ∧ w' = w ∧ (putData st n w es f).1.data n' w' = some es) := by
  unfold putData
  generalize (st.enforce && match st.data n w with | some old => old != es | none => false) = clash
  dsimp only
  split
  · by_cases h : n' = n ∧ w' = w
    · exact Or.inr ⟨h.1, h.2, if_pos h⟩
    · exact Or.inl (if_neg h)
  · exact Or.inl rfl

theorem putHash_hash (st : MState) (l n w : Nat) (hs : List Hash) (f : Fault) (l' n' w' : Nat) :
    (putHash st l n w hs f).1.hash l' n' w' = st.hash l' n' w' ∨
      (l' = l ∧ n' = n ∧ w' = w ∧ (putHash st l n w hs f).1.hash l' n' w' = some hs) := by
  unfold putHash
  generalize (st.enforce && match st.hash l n w with | some old => old != hs | none => false) = clash
  dsimp only
  split
  · by_cases h : l' = l ∧ n' = n ∧ w' = w
    · exact Or.inr ⟨h.1, h.2.1, h.2.2, if_pos h⟩
    · exact Or.inl (if_neg h)
  · exact Or.inl rfl

theorem putData_ok {st : MState} {n w : Nat} {es : List Entry} {f : Fault} (h : (putData st n w es f).2 = true) :
    (putData st n w es f).1.data n w = some es := by
  unfold putData at h ⊢
  simp only [Bool.and_eq_true] at h
  simp [Fault.applied_of_isOk h.1, h.2]

theorem putHash_ok {st : MState} {l n w : Nat} {hs : List Hash} {f : Fault} (h : (putHash st l n w hs f).2 = true) :
    (putHash st l n w hs f).1.hash l n w = some hs := by
  unfold putHash at h ⊢
  simp only [Bool.and_eq_true] at h
  simp [Fault.applied_of_isOk h.1, h.2]

theorem putData_le (st : MState) (n w : Nat) (es : List Entry) (f : Fault) :
    StoreLe st (putData st n w es f).1 := by
  refine ⟨fun n' w' h => ?_, fun _ _ _ h => h⟩
  rcases putData_data st n w es f n' w' with e | ⟨_, _, e⟩ <;> rw [e]
  · exact h
  · rfl

theorem putHash_le (st : MState) (l n w : Nat) (hs : List Hash) (f : Fault) :
    StoreLe st (putHash st l n w hs f).1 := by
  refine ⟨fun _ _ h => h, fun l' n' w' h => ?_⟩
  rcases putHash_hash st l n w hs f l' n' w' with e | ⟨_, _, _, e⟩ <;> rw [e]
  · exact h
  · rfl

structure StoreStep (a b : MState) : Prop where
  ctl : SameCtl a b
  le : StoreLe a b
  inv : StoreInv node emptyHash leaf b

section
variable {node emptyHash leaf}

theorem StoreStep.refl {a : MState} (hi : StoreInv node emptyHash leaf a) : StoreStep node emptyHash leaf a a :=
  ⟨SameCtl.refl a, StoreLe.refl a, hi⟩

theorem StoreStep.trans {a b c : MState} (h1 : StoreStep node emptyHash leaf a b) (h2 : StoreStep node emptyHash leaf b c) :
    StoreStep node emptyHash leaf a c :=
  ⟨h1.ctl.trans h2.ctl, h1.le.trans h2.le, h2.inv⟩

theorem StoreStep.minv {c : MCfg} {a b : MState} (h : StoreStep node emptyHash leaf a b) (hi : MInv node emptyHash leaf c a) :
    MInv node emptyHash leaf c b :=
  ⟨ctlInv_sameCtl h.ctl hi.ctl, h.inv⟩

end

variable {node emptyHash leaf} in
theorem putData_store {st s : MState} {n w : Nat} {es : List Entry} {f : Fault} {ok : Bool}
    (h : putData st n w es f = (s, ok)) (hi : StoreInv node emptyHash leaf st)
    (hes : ∀ E, TruthH node emptyHash leaf st.w.hist E → es = bundleOf E n w ∧ 256 * n + w ≤ E.length) :
    StoreStep node emptyHash leaf st s ∧ (ok = true → s.data n w = some es) := by
  obtain ⟨rfl, rfl⟩ := Prod.ext_iff.1 h
  refine ⟨⟨putData_sameCtl st n w es f, putData_le st n w es f,
    storeInv_of (putData_sameCtl st n w es f) (putData_le st n w es f) ?_
      (fun _ _ _ _ _ _ hx => Or.inl hx) (fun _ _ hp => Or.inl hp) hi⟩, putData_ok⟩
  intro E hE n' w' es' he
  rcases putData_data st n w es f n' w' with e | ⟨rfl, rfl, e⟩ <;> rw [e] at he
  · exact Or.inl he
  · cases he; exact Or.inr (hes E hE)

variable {node emptyHash leaf} in
theorem putHash_store {st s : MState} {l n w : Nat} {hs : List Hash} {f : Fault} {ok : Bool}
    (h : putHash st l n w hs f = (s, ok)) (hi : StoreInv node emptyHash leaf st)
    (hhs : ∀ E, TruthH node emptyHash leaf st.w.hist E →
      hs = tileOf node emptyHash (E.map leaf) l n w ∧ (256 * n + w) * 256 ^ l ≤ (E.map leaf).length)
    (hd : l = 0 → (st.data n w).isSome) :
    StoreStep node emptyHash leaf st s ∧ (ok = true → s.hash l n w = some hs) := by
  obtain ⟨rfl, rfl⟩ := Prod.ext_iff.1 h
  refine ⟨⟨putHash_sameCtl st l n w hs f, putHash_le st l n w hs f,
    storeInv_of (putHash_sameCtl st l n w hs f) (putHash_le st l n w hs f)
      (fun _ _ _ _ _ he => Or.inl he) ?_ ?_ hi⟩, putHash_ok⟩
  · intro E hE l' n' w' x hx
    rcases putHash_hash st l n w hs f l' n' w' with e | ⟨rfl, rfl, rfl, e⟩ <;> rw [e] at hx
    · exact Or.inl hx
    · cases hx; exact Or.inr (hhs E hE)
  · intro n' w' hp
    rcases putHash_hash st l n w hs f 0 n' w' with e | ⟨hl, rfl, rfl, _⟩
    · rw [e] at hp; exact Or.inl hp
    · exact Or.inr (hd hl.symm)

end Mirror
