import Proofs.SeqRecover2
/-! Concrete runs for the recovery theorems: a crash right after the compare-and-swap of a round
(non-vacuity witness of `recover_run_partial`), and the counterexample to the unconditional
statement — a publication regression followed by a discard leaves a state from which no load
succeeds. Both are evaluated by the kernel. -/
namespace Seq

def instsBelow (n : Nat) (es : List Ev) : Bool := es.all fun e => match e.inst with | some i => i < n | none => false

theorem instsBelow_other {n : Nat} {es : List Ev} (h : instsBelow n es = true) {j : Nat} (hj : n ≤ j) :
    ∀ e ∈ es, e.inst ≠ some j := by
  intro e he heq
  have := List.all_eq_true.1 h e he
  rw [heq] at this
  simp at this
  omega

end Seq

namespace Seq.RecDemo
open Seq

def l7 : Leaf := ⟨7, 7, 105⟩
def l8 : Leaf := ⟨8, 8, 110⟩
def c0 : Ck := ⟨[], 100⟩
def c1 : Ck := ⟨[l7], 105⟩
def c2 : Ck := ⟨[l7, l8], 110⟩
def b1 : List (TileId × Tree) := [(⟨.data,0,1⟩, c1.leaves), (⟨.names,0,1⟩, c1.leaves), (⟨.hash 0,0,1⟩, c1.leaves)]
def b2 : List (TileId × Tree) := [(⟨.data,0,2⟩, c2.leaves), (⟨.names,0,2⟩, c2.leaves), (⟨.hash 0,0,2⟩, c2.leaves)]

/-- create, load, one submission, a round up to and including its compare-and-swap and one of its three
    tile uploads, then the process dies -/
def crashAfterCas : List Ev := [
  .launchCreate 0, .lockFetch 0 .nf, .fetch 0 .ckpt .nf, .clock 0 100, .lockCreate 0 c0 .ok,
  .upload 0 .ckpt false (.ck c0) .ok, .upload 0 .roots false (.blob 0) .ok, .created 0,
  .launchLoad 0, .lockFetch 0 (.ok c0), .clock 0 101, .fetch 0 .ckpt (.ok (.ck c0)), .clock 0 101,
  .loaded 0 c0,
  .launchSubmit 0, .submitted 0 7 7 false [] .sequencer,
  .launchRound 0, .clock 0 105,
  .upload 0 (.staging c1.leaves) true (.bundle b1) .ok,
  .lockReplace 0 c0 c1 .ok,
  .upload 0 (.tile ⟨.data,0,1⟩) true (.slice c1.leaves) .ok,
  .crash 0]

theorem crashAfterCas_runs : ∃ s, run (init 0) crashAfterCas = some s ∧ s.tampered = false ∧ s.lock = some c1 ∧
    s.pubHist = [c0] ∧ s.store .ckpt = some (.ck c0, false) ∧
    s.store (.staging c1.leaves) = some (.bundle b1, true) ∧
    (s.insts 0).phase = .down ∧ (s.insts 0).cfgBad = false ∧ s.store (.tile ⟨.names, 0, 1⟩) = none :=
  ⟨_, rfl, rfl, rfl, rfl, rfl, rfl, rfl, rfl, rfl⟩

theorem c1_incomplete {st : Store} (h : st (.tile ⟨.names, 0, 1⟩) = none) : ¬ Complete st c1.leaves := by
  intro hc
  have := hc ⟨.names, 0, 1⟩ (by decide) (by decide)
  rw [Good, h] at this
  cases this

theorem crashAfterCas_recovers :
    (match run (init 0) crashAfterCas with
     | some s => (match run s (recoverEvs s 0 c1 120 [⟨.data, 0, 1⟩, ⟨.hash 0, 0, 1⟩]) with
        | some s' => (match (s'.insts 0).phase with | .idle => true | _ => false) && (s'.insts 0).tree == c1
        | none => false)
     | none => false) = true := by decide

theorem crashAfterCas_inst : ∀ e ∈ crashAfterCas, e.inst = some 0 :=
  insts_eq_of_all (by decide)

end Seq.RecDemo

namespace Seq.Cex
open Seq Seq.RecDemo

/-- Publication regression followed by a discard. Instance 0 stalls after the tile uploads of its round
    to `c1`; instance 1 is started, recovers `c1` from the staged bundle, sequences `c2`, publishes it
    and discards its bundle; then instance 0's delayed checkpoint upload lands (`c1` over `c2`), it
    discards its own bundle and finishes; both processes stop. -/
def cex : List Ev := [
  .launchCreate 0, .lockFetch 0 .nf, .fetch 0 .ckpt .nf, .clock 0 100, .lockCreate 0 c0 .ok,
  .upload 0 .ckpt false (.ck c0) .ok, .upload 0 .roots false (.blob 0) .ok, .created 0,
  .launchLoad 0, .lockFetch 0 (.ok c0), .clock 0 101, .fetch 0 .ckpt (.ok (.ck c0)), .clock 0 101,
  .loaded 0 c0,
  .launchSubmit 0, .submitted 0 7 7 false [] .sequencer,
  .launchRound 0, .clock 0 105,
  .upload 0 (.staging c1.leaves) true (.bundle b1) .ok,
  .lockReplace 0 c0 c1 .ok,
  .upload 0 (.tile ⟨.data,0,1⟩) true (.slice c1.leaves) .ok,
  .upload 0 (.tile ⟨.names,0,1⟩) true (.slice c1.leaves) .ok,
  .upload 0 (.tile ⟨.hash 0,0,1⟩) true (.slice c1.leaves) .ok,
  -- instance 0 is slow from here on; instance 1 starts
  .launchLoad 1, .lockFetch 1 (.ok c1), .clock 1 106, .fetch 1 .ckpt (.ok (.ck c0)), .clock 1 106,
  .fetch 1 (.legacyStaging c1.leaves) .nf, .fetch 1 (.staging c1.leaves) (.ok (.bundle b1)),
  .upload 1 (.tile ⟨.data,0,1⟩) true (.slice c1.leaves) .ok,
  .upload 1 (.tile ⟨.names,0,1⟩) true (.slice c1.leaves) .ok,
  .upload 1 (.tile ⟨.hash 0,0,1⟩) true (.slice c1.leaves) .ok,
  .loaded 1 c1,
  .launchSubmit 1, .submitted 1 8 8 false [] .sequencer,
  .launchRound 1, .clock 1 110,
  .upload 1 (.staging c2.leaves) true (.bundle b2) .ok,
  .lockReplace 1 c1 c2 .ok,
  .upload 1 (.tile ⟨.data,0,2⟩) true (.slice c2.leaves) .ok,
  .upload 1 (.tile ⟨.names,0,2⟩) true (.slice c2.leaves) .ok,
  .upload 1 (.tile ⟨.hash 0,0,2⟩) true (.slice c2.leaves) .ok,
  .upload 1 .ckpt false (.ck c2) .ok,
  .discard 1 (.staging c2.leaves) .ok,
  .roundEnd 1 .ok,
  -- instance 0's delayed checkpoint upload lands
  .upload 0 .ckpt false (.ck c1) .ok,
  .discard 0 (.staging c1.leaves) .ok,
  .roundEnd 0 .ok,
  .crash 0, .crash 1]

/-- a fault-free load attempt on the resulting state, up to the staging fetch -/
def loadAttempt (i : Nat) : List Ev :=
  [.launchLoad i, .lockFetch i (.ok c2), .clock i 120, .fetch i .ckpt (.ok (.ck c1)), .clock i 120,
   .fetch i (.legacyStaging c2.leaves) .nf]

theorem cex_runs : ∃ s, run (init 0) cex = some s ∧ s.tampered = false ∧ s.lock = some c2 ∧
    s.lockHist = [c2, c1, c0] ∧ s.pubHist = [c1, c2, c0] ∧
    s.store .ckpt = some (.ck c1, false) ∧ s.store (.staging c2.leaves) = none ∧
    (s.insts 0).phase = .down ∧ (s.insts 1).phase = .down ∧ (s.insts 0).cfgBad = false ∧ (s.insts 1).cfgBad = false :=
  ⟨_, rfl, rfl, rfl, rfl, rfl, rfl, rfl, rfl, rfl, rfl, rfl⟩

theorem cex_all_down {s : Sys} (h : run (init 0) cex = some s) : ∀ j, (s.insts j).phase = .down ∧ (s.insts j).cfgBad = false := by
  obtain ⟨s0, h0, _, _, _, _, _, _, d0, d1, g0, g1⟩ := cex_runs
  rw [h0] at h; injection h with h; subst h
  intro j
  by_cases hj : 2 ≤ j
  · rw [run_insts_other h0 j (instsBelow_other (n := 2) (by decide) hj)]
    exact ⟨rfl, rfl⟩
  · have : j = 0 ∨ j = 1 := by omega
    rcases this with rfl | rfl
    · exact ⟨d0, g0⟩
    · exact ⟨d1, g1⟩

theorem stagingFetch_fails {s s' : Sys} {i : Nat} {c : Ck} (hph : (s.insts i).phase = .loading (.stagingFetch c))
    (hst : s.store (.staging c.leaves) = none) (k : Key) (r : FRes Obj)
    (h : step s (.fetch i k r) = some s') :
    k = .staging c.leaves ∧ (s'.insts i).phase = .loading .failing := by
  simp only [step, hph] at h
  repeat' split at h
  all_goals (first | cases h | skip)
  all_goals (try (injection h with h; subst h))
  all_goals simp_all [Sys.setInst, upd, isUp]

theorem cex_load_fails {s : Sys} (h : run (init 0) cex = some s) (i : Nat) :
    ∃ sL, run s (loadAttempt i) = some sL ∧ (sL.insts i).phase = .loading (.stagingFetch c2) ∧
      ∀ k r s', step sL (.fetch i k r) = some s' → k = .staging c2.leaves ∧ (s'.insts i).phase = .loading .failing := by
  obtain ⟨hd, hg⟩ := cex_all_down h i
  obtain ⟨s0, h0, ht0, hl, _, _, hck, hstg, _⟩ := cex_runs
  rw [h0] at h; injection h with h; subst h
  have hleg := (inv4_reachable ⟨0, cex, h0⟩ ht0).legacy c2.leaves
  obtain ⟨s4, hrun4, hph4, _⟩ := prefix_run (v := 120) (c1 := c1) hl hd hg (by decide) hck
  have hall := hrun4.append (.phase (load_clock2_lt (v := 120) hph4 (by decide) (by decide) (by decide))
    (.phase (load_legacy (setPhase_phase _ _ _) ((hrun4.fr.keys _ (by simp)).trans hleg)) (.nil _ _)))
  refine ⟨_, hall.run, setPhase_phase _ _ _, fun k r s' hstep => ?_⟩
  exact stagingFetch_fails (setPhase_phase _ _ _) ((hall.fr.keys (.staging c2.leaves) (by simp)).trans hstg) k r hstep

end Seq.Cex
