import Model.Subtree
import Proofs.Witness
/-! `processSignSubtreeRequest` (C16) as a program of seventeen tests: `firstFail_program` walks it once and gives the
error of the first failing test of any request; `signSubtree_ok` is its inversion at a 200 (`Passes`: what has then been
checked), and `signAll_sound` says whose signatures the answer carries. -/
namespace Subtree
open Checkpoint Witness

variable {node : Hash → Hash → Hash}

theorem firstFail_cons_pos {s : Step} {rest : List Step} {e : Env} (h : holds node s.guard e = true) :
    firstFail node (s :: rest) e = firstFail node rest e := by simp [firstFail, h]

theorem firstFail_cons_neg {s : Step} {rest : List Step} {e : Env} (h : holds node s.guard e = false) :
    firstFail node (s :: rest) e = some s.err := by simp [firstFail, h]

theorem firstFail_program (e : Env) :
    firstFail node program e =
      if e.req.body ≠ .ok ∨ Merkle.validSubtree e.req.start e.req.stop = false then some .badRequest
      else if e.cfg.find e.origin = none then some .unknownLog
      else match e.opened with
        | .error .unverified | .error .invalidSignature => some .invalidSignature
        | .error _ => some .badRequest
        | .ok _ =>
          match e.ckpt with
          | none => some .badCheckpoint
          | some c =>
            if c.origin ≠ e.origin then some .internal
            else if c.ext ≠ [] then some .extensions
            else if c.n.toNat < e.req.stop then some .badRequest
            else if Merkle.checkSubtree node e.req.proof.reverse c.n.toNat c.hash e.req.start e.req.stop e.req.hash
              then none
            else some .proof := by
  unfold program
  by_cases hbv : e.req.body ≠ .ok ∨ Merkle.validSubtree e.req.start e.req.stop = false
  · rw [if_pos hbv]
    rcases hbv with hb | hv
    · cases hb' : e.req.body <;> first | exact absurd hb' hb | simp [firstFail, holds, hb']
    · simp [firstFail, holds, hv]
  rw [if_neg hbv]
  simp only [not_or, Decidable.not_not, Bool.not_eq_false] at hbv
  obtain ⟨hb, hv⟩ := hbv
  -- the nine tests on the body part, which all answer 400, pass; from here on one test at a time
  iterate 9 rw [firstFail_cons_pos (by simp [holds, hb, hv])]
  cases hl : e.cfg.find e.origin
  · rw [firstFail_cons_neg (by simp [holds, hl])]; rfl
  rw [firstFail_cons_pos (by simp [holds, hl]), if_neg nofun]
  cases ho : e.opened with
  | error x => cases x <;> simp [firstFail, holds, ho]
  | ok vs =>
    iterate 2 rw [firstFail_cons_pos (by simp [holds, ho])]
    cases hc : e.ckpt with
    | none => rw [firstFail_cons_neg (by simp [holds, hc])]
    | some c =>
      rw [firstFail_cons_pos (by simp [holds, hc])]
      by_cases h1 : c.origin = e.origin <;> by_cases h2 : c.ext = [] <;>
        by_cases h3 : e.req.stop ≤ c.n.toNat <;>
        simp [firstFail, holds, hc, h1, h2, h3, Nat.not_lt.2, Nat.lt_of_not_le]

variable (node) in
structure Passes (e : Env) (vs : List SigLine) (c : Checkpoint) : Prop where
  body : e.req.body = .ok
  valid : Merkle.validSubtree e.req.start e.req.stop = true
  known : e.cfg.find e.origin ≠ none
  opened : e.opened = .ok vs
  ck : e.ckpt = some c
  origin : c.origin = e.origin
  ext : c.ext = []
  within : e.req.stop ≤ c.n.toNat
  proof : Merkle.checkSubtree node e.req.proof.reverse c.n.toNat c.hash e.req.start e.req.stop e.req.hash = true

theorem signSubtree_ok {e : Env} {sigs : List SigLine} (h : signSubtree node e = .ok sigs) :
    ∃ vs c, Passes node e vs c ∧
      signAll c e.lines e.req.start e.req.stop e.req.hash (signersOf e.cfg vs) = some sigs := by
  unfold signSubtree at h
  split at h
  · cases h
  rename_i hf
  rw [firstFail_program] at hf
  cases ho : e.opened with
  | error x => rw [ho] at hf; cases x <;> simp only [ite_some_eq_none, reduceCtorEq, and_false] at hf
  | ok vs =>
    cases hc : e.ckpt with
    | none => simp only [ho, hc, ite_some_eq_none, reduceCtorEq, and_false] at hf
    | some c =>
      simp only [ho, hc, ite_some_eq_none, not_or, ne_eq, Decidable.not_not, Bool.not_eq_false, Nat.not_lt] at hf
      obtain ⟨⟨hb, hv⟩, hl, h1, h2, h3, h4⟩ := hf
      simp only [ho, hc] at h
      split at h
      · cases h
        exact ⟨vs, c, ⟨hb, hv, hl, ho, hc, h1, h2, h3, by simpa using h4⟩, ‹_›⟩
      · cases h

theorem opened_ok {e : Env} {vs : List SigLine} (h : e.opened = .ok vs) :
    ∃ note, e.req.note = .wellformed note ∧ noteOpen ((ownKeys e.cfg).map VKey.verifier) note = .ok vs := by
  unfold Env.opened at h
  split at h
  · exact ⟨_, ‹_›, h⟩
  · split at h <;> cases h
  · cases h

theorem mem_signersOf {cfg : Cfg} {vs : List SigLine} {k : VKey} :
    k ∈ signersOf cfg vs ↔ k ∈ ownKeys cfg ∧ ∃ sig ∈ vs, k.matches sig = true := by
  cases hm : cfg.mirror <;> simp [signersOf, ownKeys, hm]
  · exact ⟨fun ⟨a, ha, hm, hk⟩ => ⟨hk, a, ha, hk ▸ hm⟩, fun ⟨hk, a, ha, hm⟩ => ⟨a, ha, hk ▸ hm, hk⟩⟩
  · constructor
    · rintro ⟨a, ha, ⟨hm, rfl⟩ | ⟨hm, rfl⟩⟩
      · exact ⟨.inl rfl, a, ha, hm⟩
      · exact ⟨.inr rfl, a, ha, hm⟩
    · rintro ⟨rfl | rfl, a, ha, hm⟩
      · exact ⟨a, ha, .inl ⟨hm, rfl⟩⟩
      · exact ⟨a, ha, .inr ⟨hm, rfl⟩⟩

/-- every verified signature selects at least one signer: the own key that verified it -/
theorem signersOf_ne_nil {cfg : Cfg} {note : Note} {vs : List SigLine}
    (h : noteOpen ((ownKeys cfg).map VKey.verifier) note = .ok vs) : signersOf cfg vs ≠ [] := by
  obtain ⟨hne, hall⟩ := noteOpen_keys h
  obtain ⟨s, rest, rfl⟩ := List.exists_cons_of_ne_nil hne
  obtain ⟨-, k, hk, h1, h2, -⟩ := hall s List.mem_cons_self
  exact List.ne_nil_of_mem (mem_signersOf.2 ⟨hk, s, List.mem_cons_self, by simp [VKey.matches, h1, h2]⟩)

theorem signLine_some {k : VKey} {o : Bytes} {s t : Nat} {h : Hash} {l : SigLine}
    (hl : signLine k o s t h = some l) :
    ∃ m, subtreeMessage k.name 0 o s t h = some m ∧ l = { name := k.name, hash := k.hash, sig := symSig k.key m } := by
  unfold signLine at hl
  split at hl
  · cases hl
  · split at hl
    · exact ⟨_, ‹_›, (Option.some.inj hl).symm⟩
    · cases hl

theorem signAll_sound {c : Checkpoint} {lines : List SigLine} {s t : Nat} {hash : Hash} :
    ∀ {ks : List VKey} {out : List SigLine}, signAll c lines s t hash ks = some out →
      out.length = ks.length ∧
      ∀ l ∈ out, ∃ k ∈ ks, reverify k c lines = true ∧ signLine k c.origin s t hash = some l
  | [], out, h => by cases h; exact ⟨rfl, nofun⟩
  | k :: rest, out, h => by
    simp only [signAll] at h
    split at h
    · split at h
      · obtain ⟨out', hr, rfl⟩ := Option.map_eq_some_iff.1 h
        obtain ⟨hlen, hall⟩ := signAll_sound hr
        refine ⟨by simp [hlen], fun l' hl' => ?_⟩
        rcases List.mem_cons.1 hl' with rfl | hin
        · exact ⟨k, List.mem_cons_self, ‹_›, ‹_›⟩
        · obtain ⟨k', hk', h'⟩ := hall l' hin
          exact ⟨k', List.mem_cons_of_mem _ hk', h'⟩
      · cases h
    · cases h

theorem reverify_sound {k : VKey} {c : Checkpoint} {lines : List SigLine} (h : reverify k c lines = true) :
    ∃ sl ∈ lines, sl.name = k.name ∧ sl.hash = k.hash ∧ sl.sig = symSig k.key (formatCheckpoint c) := by
  unfold reverify at h
  split at h
  · obtain ⟨hne, hall⟩ := noteOpen_keys (ks := [k]) ‹_›
    obtain ⟨s, rest, rfl⟩ := List.exists_cons_of_ne_nil hne
    obtain ⟨hin, k', hk', h1, h2, h3⟩ := hall s List.mem_cons_self
    obtain rfl := List.mem_singleton.1 hk'
    exact ⟨s, (List.mem_filter.1 hin).1, h1.symm, h2.symm, h3⟩
  · cases h

end Subtree
