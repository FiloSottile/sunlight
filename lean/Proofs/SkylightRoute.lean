import Model.Skylight
import Proofs.TorchwoodPath
/-! The router only re-assembles segments of the cleaned request path, and the headers it sets are a function of the kind
of file (`route_file`). In the other direction a layout path is a list of clean segments (`TileSegs`), so its canonical
spelling is a fixed point of `cleanPath` and reaches `logMux` as it is (`route_log_layout`), for a witness entry `witnessRoute` (`route_wit_layout`). -/
namespace Skylight.Route
open TilePath

/-- a path segment that survives `path.Clean` -/
def Normal (s : Bytes) : Prop := s ≠ [] ∧ s ≠ dot ∧ s ≠ dotdot

instance (s : Bytes) : Decidable (Normal s) := by unfold Normal; exact inferInstance

def Seg (s : Bytes) : Prop := Normal s ∧ (47 : UInt8) ∉ s

instance (s : Bytes) : Decidable (Seg s) := by unfold Seg; exact inferInstance

theorem seg_of_head {c : UInt8} {r : Bytes} (hc : c ≠ 46) (hs : (47 : UInt8) ∉ c :: r) : Seg (c :: r) :=
  ⟨⟨by simp, fun h => hc (List.cons.inj h).1, fun h => hc (List.cons.inj h).1⟩, hs⟩

theorem cleanStep_normal (st : List Bytes) {s : Bytes} (h : Normal s) : cleanStep st s = s :: st := by
  rw [cleanStep, if_neg (fun hc => hc.elim h.1 h.2.1), if_neg h.2.2]

theorem mem_cleanStep {st : List Bytes} {s x : Bytes} (h : x ∈ cleanStep st s) : x ∈ st ∨ (x = s ∧ Normal s) := by
  unfold cleanStep at h
  split at h
  · exact Or.inl h
  · rename_i h1
    split at h
    · exact Or.inl (List.mem_of_mem_drop h)
    · rename_i h2
      exact (List.mem_cons.mp h).elim (fun hx => Or.inr ⟨hx, fun hc => h1 (Or.inl hc), fun hc => h1 (Or.inr hc), h2⟩) Or.inl

theorem mem_foldl_cleanStep : ∀ (ss st : List Bytes) {x : Bytes}, x ∈ ss.foldl cleanStep st → x ∈ st ∨ (x ∈ ss ∧ Normal x)
  | [], _, _, h => Or.inl h
  | a :: rest, st, x, h => by
    rcases mem_foldl_cleanStep rest _ h with h | h
    · rcases mem_cleanStep h with h | ⟨rfl, hn⟩
      · exact Or.inl h
      · exact Or.inr ⟨by simp, hn⟩
    · exact Or.inr ⟨List.mem_cons_of_mem _ h.1, h.2⟩

theorem cleanSegs_normal (ss : List Bytes) : ∀ x ∈ cleanSegs ss, Normal x ∧ x ∈ ss := by
  intro x hx
  rcases mem_foldl_cleanStep ss [] (List.mem_reverse.mp hx) with h | h
  · cases h
  · exact ⟨h.2, h.1⟩

theorem cleanSegs_id (ss : List Bytes) (h : ∀ s ∈ ss, Normal s) : cleanSegs ss = ss := by
  have : ∀ (ss st : List Bytes), (∀ s ∈ ss, Normal s) → ss.foldl cleanStep st = ss.reverse ++ st := by
    intro ss
    induction ss with
    | nil => intro st _; rfl
    | cons a rest ih =>
      intro st h
      rw [List.foldl_cons, cleanStep_normal st (h a (by simp)), ih _ (fun s hs => h s (List.mem_cons_of_mem _ hs))]
      simp
  rw [cleanSegs, this ss [] h]
  simp

/-- the model's `relPath` is the `joinSlash` that the lemmas of `Proofs/TilePath.lean` speak of -/
theorem relPath_eq_joinSlash : ∀ S : List Bytes, relPath S = joinSlash S
  | [] => rfl
  | [_] => rfl
  | a :: b :: r => congrArg (a ++ 47 :: ·) (relPath_eq_joinSlash (b :: r))

theorem relPath_cons (a : Bytes) {r : List Bytes} (h : r ≠ []) : relPath (a :: r) = a ++ 47 :: relPath r := by
  rw [relPath_eq_joinSlash, relPath_eq_joinSlash, joinSlash_cons a h]

theorem joinSegs_eq : ∀ {S : List Bytes}, S ≠ [] → joinSegs S = 47 :: relPath S
  | [a], _ => by simp [joinSegs, relPath]
  | a :: b :: r, _ => by
    rw [joinSegs, joinSegs_eq (S := b :: r) (by simp), relPath_cons a (by simp)]
    simp

theorem split_relPath {S : List Bytes} (hne : S ≠ []) (hs : ∀ s ∈ S, (47 : UInt8) ∉ s) : split 47 (relPath S) = S := by
  rw [relPath_eq_joinSlash]
  exact split_joinSlash hne hs

theorem getLast?_relPath : ∀ {S : List Bytes}, S ≠ [] → (∀ s ∈ S, Seg s) →
    ∃ c, (relPath S).getLast? = some c ∧ c ≠ 47
  | [a], _, hs => by
    obtain ⟨⟨hne, _⟩, hns⟩ := hs a (by simp)
    exact ⟨a.getLast hne, List.getLast?_eq_some_getLast hne, fun hc => hns (hc ▸ List.getLast_mem hne)⟩
  | a :: b :: r, _, hs => by
    obtain ⟨c, hc, hne⟩ := getLast?_relPath (S := b :: r) (by simp) (fun s h => hs s (List.mem_cons_of_mem _ h))
    refine ⟨c, ?_, hne⟩
    rw [relPath_cons a (by simp), List.getLast?_append, List.getLast?_cons, hc]
    rfl

theorem cleanParts_joinSegs {S : List Bytes} (hne : S ≠ []) (hs : ∀ s ∈ S, Seg s) :
    cleanParts (joinSegs S) = (S, false) := by
  obtain ⟨c, hc, hc47⟩ := getLast?_relPath hne hs
  unfold cleanParts
  rw [joinSegs_eq hne]
  simp only
  rw [split_relPath hne (fun s h => (hs s h).2), cleanSegs_id S (fun s h => (hs s h).1), List.getLast?_cons, hc]
  simp [hc47]

theorem cleanPath_joinSegs {S : List Bytes} (hne : S ≠ []) (hs : ∀ s ∈ S, Seg s) :
    cleanPath (joinSegs S) = joinSegs S := by
  rw [cleanPath, cleanParts_joinSegs hne hs, render]
  cases S with
  | nil => exact absurd rfl hne
  | cons a r => simp

theorem cleanParts_segs (p : Bytes) : ∀ s ∈ (cleanParts p).1, Seg s := by
  intro s hs
  obtain ⟨hn, hm⟩ := cleanSegs_normal _ s hs
  exact ⟨hn, not_mem_of_mem_split 47 _ s hm⟩

/-- the headers each kind of file is served with -/
def hdrsOf : Kind → Hdrs
  | .checkpoint => checkpointHdrs
  | .logJSON | .witnessJSON | .mirrorJSON => jsonHdrs
  | .issuer => issuerHdrs
  | .data | .partialData => ⟨"application/octet-stream", true, immutableCC⟩
  | .names => ⟨"application/jsonl; charset=utf-8", true, immutableCC⟩
  | .tile => ⟨"application/octet-stream", false, immutableCC⟩

theorem tileHeaders_cases (t : Tile) :
    (t.L = -1 ∧ tileHeaders t = (if t.W < 256 then .partialData else .data, hdrsOf .data)) ∨
    (t.L = -2 ∧ tileHeaders t = (.names, hdrsOf .names)) ∨
    (t.L ≠ -1 ∧ t.L ≠ -2 ∧ tileHeaders t = (.tile, hdrsOf .tile)) := by
  unfold tileHeaders
  by_cases h1 : t.L = -1
  · exact Or.inl ⟨h1, if_pos h1⟩
  · by_cases h2 : t.L = -2
    · exact Or.inr (Or.inl ⟨h2, by rw [if_neg h1, if_pos h2]; rfl⟩)
    · exact Or.inr (Or.inr ⟨h1, h2, by rw [if_neg h1, if_neg h2]; rfl⟩)

theorem tileHeaders_hdrs (t : Tile) : (tileHeaders t).2 = hdrsOf (tileHeaders t).1 := by
  rcases tileHeaders_cases t with ⟨_, h⟩ | ⟨_, h⟩ | ⟨_, _, h⟩ <;> rw [h]
  split <;> rfl

/-! ### the router only re-assembles request segments -/

theorem logMux_file {home : Bool} {root root' : RootId} {fp R rel : List Bytes} {tr tr' : Bool} {k : Kind} {h : Hdrs}
    (hf : logMux home root fp R tr = .file root' rel tr' k h) :
    root' = root ∧ rel = fp ++ R ∧ h = hdrsOf k := by
  unfold logMux at hf
  split at hf
  · split at hf <;> cases hf
  · split at hf
    · cases hf; exact ⟨rfl, rfl, rfl⟩
    · split at hf
      · cases hf; exact ⟨rfl, rfl, rfl⟩
      · split at hf <;> cases hf
  · split at hf
    · cases hf; exact ⟨rfl, rfl, rfl⟩
    · split at hf
      · cases hf; exact ⟨rfl, rfl, tileHeaders_hdrs _⟩
      · cases hf
  · split at hf
    · cases hf; exact ⟨rfl, rfl, tileHeaders_hdrs _⟩
    · cases hf

theorem witnessRoute_file {home : Bool} {j : Nat} {R rel : List Bytes} {tr tr' : Bool} {root : RootId} {k : Kind} {h : Hdrs}
    (hf : witnessRoute home j R tr = some (.file root rel tr' k h)) :
    root = .wit j ∧ rel = R ∧ h = hdrsOf k := by
  unfold witnessRoute at hf
  split at hf
  · cases hf
  · split at hf <;> cases hf
    exact ⟨rfl, rfl, rfl⟩
  · split at hf
    · split at hf <;> cases hf
      exact ⟨rfl, rfl, rfl⟩
    · exact logMux_file (Option.some.inj hf)
  · split at hf <;> exact logMux_file (Option.some.inj hf)
  · exact logMux_file (Option.some.inj hf)

theorem hostless_not_file {home : Bool} {S : List Bytes} {tr tr' : Bool} {root : RootId} {rel : List Bytes} {k : Kind} {h : Hdrs} :
    hostless home S tr ≠ .file root rel tr' k h := by
  unfold hostless
  intro hf
  split at hf
  · split at hf <;> cases hf
  · split at hf
    · cases hf
    · split at hf
      · cases hf
      · split at hf <;> cases hf
  · cases hf

theorem findEntry_some {host : Bytes} {S : List Bytes} : ∀ {es : List Entry} {i0 i : Nat} {e : Entry},
    findEntry host S es i0 = some (i, e) → i0 ≤ i ∧ es[i - i0]? = some e ∧ e.host = host ∧ isPrefix e.pfx S = true
  | [], _, _, _, h => by cases h
  | a :: rest, i0, i, e, h => by
    simp only [findEntry] at h
    split at h
    · rename_i hc
      obtain ⟨rfl, rfl⟩ := Prod.mk.inj (Option.some.inj h)
      simp only [Bool.and_eq_true, beq_iff_eq] at hc
      exact ⟨Nat.le_refl _, by simp, hc.1, hc.2⟩
    · obtain ⟨h1, h2, h3, h4⟩ := findEntry_some h
      refine ⟨by omega, ?_, h3, h4⟩
      rw [show i - i0 = (i - (i0 + 1)) + 1 by omega]
      simpa using h2

/-- what `route c host p = .file root rel tr k h` says of its arguments (`route_file`); `e` is the configured entry the
request was matched to -/
structure FileRoute (c : Cfg) (host p : Bytes) (root : RootId) (rel : List Bytes) (k : Kind) (h : Hdrs) (e : Entry) :
    Prop where
  clean : cleanPath p = p
  hdrs : h = hdrsOf k
  entry : (∃ i, root = .log i ∧ c.logs[i]? = some e) ∨ (∃ j, root = .wit j ∧ c.wits[j]? = some e)
  host : e.host = host
  pfx : isPrefix e.pfx (cleanParts p).1 = true
  rel_eq : rel = (cleanParts p).1.drop e.pfx.length

theorem route_file {c : Cfg} {host p : Bytes} {root : RootId} {rel : List Bytes} {tr : Bool} {k : Kind} {h : Hdrs}
    (hf : route c host p = .file root rel tr k h) : ∃ e, FileRoute c host p root rel k h e := by
  unfold route at hf
  split at hf
  · cases hf
  · rename_i hclean
    have clean : cleanPath p = p := by simpa using hclean
    unfold routeSegs at hf
    split at hf
    · rename_i i e hfe
      obtain ⟨_, hidx, hhost, hpre⟩ := findEntry_some hfe
      simp only at hf
      split at hf
      · cases hf
      · obtain ⟨h1, h2, hdrs⟩ := logMux_file hf
        exact ⟨e,
          { clean, hdrs, entry := Or.inl ⟨i, h1, by simpa using hidx⟩, host := hhost, pfx := hpre, rel_eq := by simpa using h2 }⟩
    · split at hf
      · rename_i j e hfe
        obtain ⟨_, hidx, hhost, hpre⟩ := findEntry_some hfe
        split at hf
        · rename_i o ho
          obtain ⟨h1, h2, hdrs⟩ := witnessRoute_file (hf ▸ ho)
          exact ⟨e, { clean, hdrs, entry := Or.inr ⟨j, h1, by simpa using hidx⟩, host := hhost, pfx := hpre, rel_eq := h2 }⟩
        · exact absurd hf hostless_not_file
      · exact absurd hf hostless_not_file

theorem respond_ok {look : RootId → Bytes → FileState} {o : Outcome} {root : RootId} {file : Bytes} {h : Hdrs}
    (hr : respond look o = .ok root file h) :
    ∃ rel tr k, o = .file root rel tr k h ∧ file = relPath rel ∧ look root file = .regular := by
  cases o with
  | file root' rel tr k h' =>
    simp only [respond] at hr
    split at hr
    · cases hr
    · split at hr
      · rename_i hl
        split at hr <;> cases hr
        exact ⟨rel, tr, k, rfl, rfl, hl⟩
      · cases hr
      · cases hr
  | _ => cases hr

/-! ### canonical requests -/

theorem isPrefix_append (a b : List Bytes) : isPrefix a (a ++ b) = true := by
  induction a with
  | nil => rfl
  | cons x xs ih => simp [isPrefix, ih]

/-- the last hypothesis holds in particular when the (host, prefix) pairs of the list are prefix-free -/
theorem findEntry_first {host : Bytes} {S : List Bytes} : ∀ (es : List Entry) (i0 i : Nat) (e : Entry),
    es[i]? = some e → e.host = host → isPrefix e.pfx S = true →
    (∀ j e', j < i → es[j]? = some e' → ¬ (e'.host = host ∧ isPrefix e'.pfx S = true)) →
    findEntry host S es i0 = some (i0 + i, e)
  | [], _, _, _, h, _, _, _ => by simp at h
  | a :: rest, i0, 0, e, hi, hh, hp, _ => by
    obtain rfl : a = e := by simpa using hi
    simp [findEntry, hh, hp]
  | a :: rest, i0, n + 1, e, hi, hh, hp, hno => by
    have ha : (a.host == host && isPrefix a.pfx S) = false := by
      simpa using hno 0 a (by omega) (by simp)
    rw [findEntry, ha, if_neg (by simp), findEntry_first rest (i0 + 1) n e (by simpa using hi) hh hp
      (fun j e' hj hje => hno (j + 1) e' (by omega) (by simpa using hje))]
    rw [show i0 + 1 + n = i0 + (n + 1) by omega]

theorem route_joinSegs (c : Cfg) (host : Bytes) {S : List Bytes} (hne : S ≠ []) (hs : ∀ s ∈ S, Seg s) :
    route c host (joinSegs S) = routeSegs c host S false := by
  rw [route, cleanPath_joinSegs hne hs, if_neg (by simp), cleanParts_joinSegs hne hs]

theorem route_log_layout (c : Cfg) (i : Nat) (e : Entry) (X : List Bytes) (hX : X ≠ [])
    (hs : ∀ s ∈ e.pfx ++ X, Seg s)
    (hsel : findEntry e.host (e.pfx ++ X) c.logs 0 = some (i, e)) :
    route c e.host (joinSegs (e.pfx ++ X)) = logMux c.home (.log i) [] X false := by
  rw [route_joinSegs c _ (by simp [hX]) hs, routeSegs]
  simp [hsel, hX]

theorem route_wit_layout (c : Cfg) (j : Nat) (e : Entry) (X : List Bytes) (hX : X ≠ [])
    (hs : ∀ s ∈ e.pfx ++ X, Seg s)
    (hnolog : findEntry e.host (e.pfx ++ X) c.logs 0 = none)
    (hsel : findEntry e.host (e.pfx ++ X) c.wits 0 = some (j, e)) (o : Outcome)
    (ho : witnessRoute c.home j X false = some o) :
    route c e.host (joinSegs (e.pfx ++ X)) = o := by
  rw [route_joinSegs c _ (by simp [hX]) hs, routeSegs]
  simp only [hnolog, hsel, List.drop_left', ho]

/-! ### segment structure of tile paths -/

/-- `suf` is `.p` or nothing -/
theorem seg_coord {s : Bytes} (hne : s ≠ []) (hs : ∀ b ∈ s, b = 45 ∨ isDigit b = true) {suf : Bytes}
    (hsuf : (47 : UInt8) ∉ suf) : Seg (s ++ suf) := by
  cases s with
  | nil => exact absurd rfl hne
  | cons c r =>
    have hns : (47 : UInt8) ∉ (c :: r) ++ suf := fun hm =>
      (List.mem_append.mp hm).elim (fun h => digitOrMinus_ne (hs _ h) (by decide) (by decide) rfl) hsuf
    exact seg_of_head (digitOrMinus_ne (hs c (by simp)) (by decide) (by decide)) hns

theorem seg_digits {s : Bytes} (hne : s ≠ []) (hd : s.all isDigit = true) : Seg s := by
  simpa using seg_coord hne (fun b hb => Or.inr (List.all_eq_true.mp hd b hb)) (suf := []) (by simp)

theorem seg_fmt03 (m : Int) {suf : Bytes} (hsuf : (47 : UInt8) ∉ suf) : Seg (fmt03 m ++ suf) :=
  seg_coord (fmt03_ne_nil m) (fun _ => fmt03_mem) hsuf

theorem nwPart_segs (t : Tile) (hW0 : 1 ≤ t.W) :
    ∃ S : List Bytes, S ≠ [] ∧ nwPart t = relPath S ∧ ∀ s ∈ S, Seg s := by
  obtain ⟨G, hco, hx⟩ := coords_struct t.N t.W 256
  have hGs : ∀ g ∈ G, Seg g := by
    intro g hg
    obtain ⟨m, rfl⟩ := hx.shape g hg
    exact seg_of_head (by decide) (hx.not_mem hg (by decide) (by decide) (by decide))
  refine ⟨_, ?_, (relPath_eq_joinSlash _ ▸ hco : nwPart t = relPath _), List.forall_mem_append.mpr ⟨hGs, ?_⟩⟩
  · split <;> simp
  · split
    · simpa using seg_fmt03 (goMod t.N 1000) (suf := []) (by simp)
    · simpa using ⟨seg_fmt03 (goMod t.N 1000) (suf := ascii ".p") (by decide),
        seg_digits (fmtInt_ne_nil (by omega)) (fmtInt_digits (x := t.W) (by omega))⟩

theorem seg_levelStr (l : Int) (h : -1 ≤ l) : Seg (levelStr l) := by
  rcases levelStr_cases l h with h | h
  · rw [h]; decide
  · exact seg_digits h.2 h.1

/-- a layout path as a request sees it: `tile`, a level name, and at least one coordinate segment -/
structure TileSegs (lp : Bytes) (S : List Bytes) : Prop where
  path : lp = relPath S
  shape : ∃ lv rest, S = ascii "tile" :: lv :: rest ∧ rest ≠ []
  segs : ∀ s ∈ S, Seg s

theorem tileSegs_of {lvl : Bytes} (hl : Seg lvl) (t : Tile) (hW0 : 1 ≤ t.W) {lp : Bytes}
    (hlp : lp = ascii "tile/" ++ (lvl ++ 47 :: nwPart t)) : ∃ S, TileSegs lp S := by
  obtain ⟨X, hne, hX, hXp⟩ := nwPart_segs t hW0
  refine ⟨ascii "tile" :: lvl :: X, ?_, ⟨lvl, X, rfl, hne⟩, ?_⟩
  · rw [hlp, relPath_cons _ (by simp), relPath_cons _ hne, hX]
    simp [ascii]
  · exact List.forall_mem_cons.mpr ⟨by decide, List.forall_mem_cons.mpr ⟨hl, hXp⟩⟩

theorem sunlightPath_segs (t : Tile) (h : TileDom t) : ∃ lp, sunlightPath t = some lp ∧ ∃ S, TileSegs lp S := by
  obtain ⟨d, hL0, _⟩ := tileDom_iff.mp h
  refine ⟨_, sunlightPath_eq t d.H, ?_⟩
  split
  · exact tileSegs_of (lvl := ascii "names") (by decide) t d.W_pos (by simp [ascii])
  · exact tileSegs_of (seg_levelStr t.L (by omega)) t d.W_pos rfl

theorem torchwoodPath_segs (t : Tile) (h : TileDom t) (hL : -1 ≤ t.L) :
    ∃ lp, torchwoodPath t = some lp ∧ ∃ S, TileSegs lp S := by
  obtain ⟨d, _⟩ := tileDom_iff.mp h
  refine ⟨_, torchwoodPath_eq t d.H, ?_⟩
  split
  · exact tileSegs_of (lvl := ascii "entries") (by decide) t d.W_pos (by simp [ascii])
  · exact tileSegs_of (seg_levelStr t.L hL) t d.W_pos rfl

theorem logMux_tile (home : Bool) (root : RootId) (fp : List Bytes) {lp : Bytes} {S : List Bytes} (hS : TileSegs lp S) :
    logMux home root fp S false = .file root (fp ++ S) false (tileHeaders (tileOf lp)).1 (tileHeaders (tileOf lp)).2 := by
  obtain ⟨rfl, ⟨lv, rest, rfl, hrest⟩, _⟩ := hS
  cases rest with
  | nil => exact absurd rfl hrest
  | cons r0 rs => simp [logMux]

/-! ### the tile the handler switches on -/

theorem tileOf_sunlight (t : Tile) (h : TileDom t) (lp : Bytes) (hp : sunlightPath t = some lp) : tileOf lp = t := by
  rw [tileOf, sunlightParse_eq_some.mpr ⟨hp, h⟩]

/-- `entries` is no level name of sunlight: the sixth byte is `n`, `d` or a digit there -/
theorem sunlightParse_entries (x : Bytes) : sunlightParse (ascii "tile/entries/" ++ x) = none := by
  cases h : sunlightParse (ascii "tile/entries/" ++ x) with
  | none => rfl
  | some t =>
    rw [sunlightParse_eq] at h
    obtain ⟨head, a⟩ := parseWith_accepts h
    have h5 : (ascii "tile/entries/" ++ x)[5]? = some 101 := rfl
    rw [a.path] at h5
    rcases a.head_eq with ⟨rfl, _⟩ | ⟨rfl, hL, _⟩
    · cases h5
    · obtain ⟨c, r, hs, hc⟩ := levelStr_head t.L hL
      rw [hs] at h5
      cases (Option.some.inj h5 : c = 101)
      exact absurd hc (by decide)

/-- an entry bundle of a mirror is recognised by the torchwood fallback, sunlight's parser refusing `tile/entries/…`; a
hash tile has the same path under both schemes -/
theorem tileOf_torchwood (t : Tile) (h : TileDom t) (hL : -1 ≤ t.L) (lp : Bytes) (hp : torchwoodPath t = some lp) :
    tileOf lp = t := by
  obtain ⟨d, _⟩ := tileDom_iff.mp h
  by_cases hL' : t.L = -1
  · rw [tileOf, torchwoodParse_eq_some.mpr ⟨h, hL, Or.inl hp⟩]
    rw [torchwoodPath_eq t d.H, if_pos hL'] at hp
    rw [← Option.some.inj hp, sunlightParse_entries]
  · have : torchwoodPath t = sunlightPath t := by
      rw [torchwoodPath_eq t d.H, sunlightPath_eq t d.H, if_neg hL', if_neg (by omega)]
    exact tileOf_sunlight t h lp (this ▸ hp)

end Skylight.Route
