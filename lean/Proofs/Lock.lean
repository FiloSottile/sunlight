import Model.Lock
/-! C05 — proofs about `Model/Lock.lean`: backend refinement, witness-checker soundness,
history-level consequences of linearizability. -/
namespace Lock

@[simp] theorem State.set_same (s : State) (id : Id) (v : Val) : (s.set id v) id = some v := by
  simp [State.set]

theorem State.set_other (s : State) {id i : Id} (v : Val) (h : i ≠ id) : (s.set id v) i = s i := by
  simp [State.set, h]

@[simp] theorem State.empty_apply (i : Id) : State.empty i = none := rfl

namespace CasSpec

theorem replace_ok_iff (s : State) (id : Id) (old new : Val) :
    (step s (.replace id old new)).2 = .ok ↔ s id = some old := by
  simp only [step]; split <;> simp_all

theorem replace_res (s : State) (id : Id) (old new : Val) :
    (step s (.replace id old new)).2 = .ok ∨ (step s (.replace id old new)).2 = .conflict := by
  simp only [step]; split <;> simp

theorem create_ok_iff (s : State) (id : Id) (v : Val) :
    (step s (.create id v)).2 = .ok ↔ s id = none := by
  simp only [step]; split <;> simp_all

theorem create_res (s : State) (id : Id) (v : Val) :
    (step s (.create id v)).2 = .ok ∨ (step s (.create id v)).2 = .exists_ := by
  simp only [step]; split <;> simp

theorem step_other (s : State) (o : Op) (i : Id) (h : o.id ≠ i) : (step s o).1 i = s i := by
  have hset : ∀ v, (s.set o.id v) i = s i := fun v => State.set_other s v (Ne.symm h)
  cases o with
  | fetch id => simp only [step]; split <;> rfl
  | create id v =>
    simp only [step]; split
    · exact hset v
    · rfl
  | replace id old new =>
    simp only [step]; split
    · exact hset new
    · rfl

end CasSpec

/-! ## Refinement: a backend's API steps are the specification's steps -/

/-- What has to be shown of a backend model: an abstraction of the server state to the register
state under which each API call is the corresponding specification step. -/
structure Refinement (b : Backend) where
  abs : b.S → State
  wf : b.H → Prop
  init_abs : abs b.init = State.empty
  fetch_some : ∀ s id h, b.fetch s id = some h → abs s id = some (b.hbody h) ∧ b.hid h = id ∧ wf h
  fetch_none : ∀ s id, b.fetch s id = none → abs s id = none
  create_free : ∀ s id v, abs s id = none →
    (b.create s id v).2 = true ∧ abs (b.create s id v).1 = (abs s).set id v
  create_taken : ∀ s id v, abs s id ≠ none →
    (b.create s id v).2 = false ∧ abs (b.create s id v).1 = abs s
  replace_match : ∀ s h new, wf h → abs s (b.hid h) = some (b.hbody h) →
    ∃ h', (b.replace s h new).2 = some h' ∧ b.hid h' = b.hid h ∧ b.hbody h' = new ∧ wf h' ∧
      abs (b.replace s h new).1 = (abs s).set (b.hid h) new
  replace_differ : ∀ s h new, wf h → abs s (b.hid h) ≠ some (b.hbody h) →
    (b.replace s h new).2 = none ∧ abs (b.replace s h new).1 = abs s

def Backend.habs (b : Backend) (h : b.H) : Id × Val := (b.hid h, b.hbody h)

theorem spec_fetch (t : State) (hs : List (Id × Val)) (id : Id) :
    specStepCmd t hs (.fetch id) =
      match t id with
      | some v => (t, hs ++ [(id, v)], .val v)
      | none => (t, hs, .notFound) := by
  simp only [specStepCmd, CasSpec.step]
  cases t id <;> rfl

theorem spec_create (t : State) (hs : List (Id × Val)) (id : Id) (v : Val) :
    specStepCmd t hs (.create id v) =
      if t id = none then (t.set id v, hs, .ok) else (t, hs, .exists_) := by
  simp only [specStepCmd, CasSpec.step]
  cases t id <;> simp

theorem spec_replace (t : State) (hs : List (Id × Val)) (k : Nat) (new : Val) :
    specStepCmd t hs (.replace k new) =
      match hs[k]? with
      | none => (t, hs, .badHandle)
      | some h => if t h.1 = some h.2 then (t.set h.1 new, hs ++ [(h.1, new)], .ok)
                  else (t, hs, .conflict) := by
  simp only [specStepCmd, CasSpec.step]
  cases hs[k]? with
  | none => rfl
  | some h => simp only; split <;> simp_all

/-- `Backend.stepCmd` with the results of `Create` and `Replace` taken apart by projections. -/
theorem Backend.stepCmd_create (b : Backend) (s : b.S) (hs : List b.H) (id : Id) (v : Val) :
    b.stepCmd s hs (.create id v) =
      ((b.create s id v).1, hs, if (b.create s id v).2 then .ok else .exists_) := by
  simp only [Backend.stepCmd]
  rcases b.create s id v with ⟨_, _ | _⟩ <;> rfl

theorem Backend.stepCmd_replace (b : Backend) (s : b.S) (hs : List b.H) (k : Nat) (new : Val) :
    b.stepCmd s hs (.replace k new) =
      match hs[k]? with
      | none => (s, hs, .badHandle)
      | some h => ((b.replace s h new).1, hs ++ (b.replace s h new).2.toList,
          if (b.replace s h new).2.isSome then .ok else .conflict) := by
  simp only [Backend.stepCmd]
  cases hs[k]? with
  | none => rfl
  | some h => simp only; rcases b.replace s h new with ⟨_, _ | _⟩ <;> simp

theorem stepCmd_refines {b : Backend} (R : Refinement b) (s : b.S) (hs : List b.H) (c : Cmd)
    (hwf : ∀ h ∈ hs, R.wf h) :
    specStepCmd (R.abs s) (hs.map b.habs) c =
      (R.abs (b.stepCmd s hs c).1, (b.stepCmd s hs c).2.1.map b.habs, (b.stepCmd s hs c).2.2) ∧
    ∀ h ∈ (b.stepCmd s hs c).2.1, R.wf h := by
  have hwf' : ∀ h, R.wf h → ∀ x ∈ hs ++ [h], R.wf x := fun h hh =>
    List.forall_mem_append.2 ⟨hwf, by simpa using hh⟩
  cases c with
  | fetch id =>
    rw [spec_fetch]
    simp only [Backend.stepCmd]
    cases hf : b.fetch s id with
    | none => rw [R.fetch_none s id hf]; exact ⟨rfl, hwf⟩
    | some h =>
      obtain ⟨h1, rfl, h3⟩ := R.fetch_some s id h hf
      rw [h1]
      exact ⟨by simp [Backend.habs], hwf' h h3⟩
  | create id v =>
    rw [spec_create, Backend.stepCmd_create]
    by_cases hfree : R.abs s id = none
    · obtain ⟨h1, h2⟩ := R.create_free s id v hfree
      rw [if_pos hfree, h1, h2]; exact ⟨rfl, hwf⟩
    · obtain ⟨h1, h2⟩ := R.create_taken s id v hfree
      rw [if_neg hfree, h1, h2]; exact ⟨rfl, hwf⟩
  | replace k new =>
    rw [spec_replace, Backend.stepCmd_replace, List.getElem?_map]
    cases hk : hs[k]? with
    | none => exact ⟨rfl, hwf⟩
    | some h =>
      have hh := hwf h (List.mem_of_getElem? hk)
      simp only [Option.map_some, Backend.habs]
      by_cases hm : R.abs s (b.hid h) = some (b.hbody h)
      · obtain ⟨h', e0, e1, e2, e3, e4⟩ := R.replace_match s h new hh hm
        rw [if_pos hm, e0, e4]
        exact ⟨by simp [Backend.habs, e1, e2], hwf' h' e3⟩
      · obtain ⟨e0, e4⟩ := R.replace_differ s h new hh hm
        rw [if_neg hm, e0, e4]
        exact ⟨by simp, by simpa using hwf⟩

theorem runFrom_refines {b : Backend} (R : Refinement b) (cs : List Cmd) :
    ∀ (s : b.S) (hs : List b.H), (∀ h ∈ hs, R.wf h) →
      b.runFrom s hs cs = specRunFrom (R.abs s) (hs.map b.habs) cs := by
  induction cs with
  | nil => intro s hs _; rfl
  | cons c cs ih =>
    intro s hs hwf
    obtain ⟨h1, h2⟩ := stepCmd_refines R s hs c hwf
    simp only [Backend.runFrom, specRunFrom]
    rw [h1, ih _ _ h2]

theorem run_refines {b : Backend} (R : Refinement b) (cs : List Cmd) :
    b.run cs = specRun cs := by
  unfold Backend.run specRun
  rw [runFrom_refines R cs b.init [] (by simp), R.init_abs]
  rfl

/-! ## The three backends refine the specification

Seen through the abstraction, every backend does the same three things: `Fetch` wraps the stored
value in a handle (`mk`), `Create` and `Replace` write at the id if what is stored there is the
expected `none` / handle body. -/

def Refinement.ofCas {b : Backend} (abs : b.S → State) (wf : b.H → Prop) (mk : Id → Val → b.H)
    (hmk : ∀ id v, b.hid (mk id v) = id ∧ b.hbody (mk id v) = v ∧ wf (mk id v))
    (init : abs b.init = State.empty)
    (fetch : ∀ s id, b.fetch s id = (abs s id).map (mk id))
    (create : ∀ s id v, (abs (b.create s id v).1, (b.create s id v).2) =
      if abs s id = none then ((abs s).set id v, true) else (abs s, false))
    (replace : ∀ s h new, wf h → (abs (b.replace s h new).1, (b.replace s h new).2) =
      if abs s (b.hid h) = some (b.hbody h) then ((abs s).set (b.hid h) new, some (mk (b.hid h) new))
      else (abs s, none)) :
    Refinement b where
  abs := abs
  wf := wf
  init_abs := init
  fetch_some s id h hf := by
    rw [fetch] at hf
    obtain ⟨v, hv, rfl⟩ := Option.map_eq_some_iff.1 hf
    obtain ⟨h1, h2, h3⟩ := hmk id v
    exact ⟨by rw [hv, h2], h1, h3⟩
  fetch_none s id hf := by rwa [fetch, Option.map_eq_none_iff] at hf
  create_free s id v h := by simpa [h, and_comm] using create s id v
  create_taken s id v h := by simpa [h, and_comm] using create s id v
  replace_match s h new hwf hm := by
    have e := replace s h new hwf
    rw [if_pos hm] at e
    obtain ⟨h1, h2, h3⟩ := hmk (b.hid h) new
    exact ⟨_, congrArg Prod.snd e, h1, h2, h3, congrArg Prod.fst e⟩
  replace_differ s h new hwf hm := by simpa [hm, and_comm] using replace s h new hwf

/-! What differs is how the condition is put to the server. -/

theorem Sqlite.create_eq (t : Sqlite.Table) (id : Id) (v : Val) :
    (Sqlite.backend Sqlite.program).create t id v =
      if t id = none then (State.set t id v, true) else (t, false) := by
  simp only [Sqlite.backend, Sqlite.program, Sqlite.execInsert]
  cases t id <;> rfl

theorem Sqlite.replace_eq (t : Sqlite.Table) (h : Sqlite.Handle) (new : Val) :
    (Sqlite.backend Sqlite.program).replace t h new =
      if t h.logID = some h.body then (State.set t h.logID new, some ⟨h.logID, new⟩)
      else (t, none) := by
  simp only [Sqlite.backend, Sqlite.program, Sqlite.execUpdate]
  cases t h.logID with
  | none => rfl
  | some cur => by_cases hc : cur = h.body <;> simp [hc]

theorem Dynamo.create_eq (s : Dynamo.Server) (id : Id) (v : Val) :
    (Dynamo.backend Dynamo.program).create s id v =
      if s.cur id = none then ({ s with cur := State.set s.cur id v }, true) else (s, false) := by
  simp only [Dynamo.backend, Dynamo.program, Dynamo.putItem, Dynamo.Cond.eval]
  cases s.cur id <;> rfl

theorem Dynamo.replace_eq (s : Dynamo.Server) (h : Dynamo.Handle) (new : Val) :
    (Dynamo.backend Dynamo.program).replace s h new =
      if s.cur h.logID = some h.body then
        ({ s with cur := State.set s.cur h.logID new }, some ⟨h.logID, new⟩)
      else (s, none) := by
  simp only [Dynamo.backend, Dynamo.program, Dynamo.putItem, Dynamo.Cond.eval]
  cases s.cur h.logID with
  | none => rfl
  | some cur => by_cases hc : cur = h.body <;> simp [hc]

theorem ETag.create_eq (tag : Val → ETag.Tag) (o : ETag.Objects) (id : Id) (v : Val) :
    (ETag.backend tag ETag.program).create o id v =
      if o id = none then (State.set o id v, true) else (o, false) := by
  simp only [ETag.backend, ETag.program, ETag.IfMatch.header, ETag.putObject]
  cases o id <;> rfl

/-- Here the server contract on ETags comes in: the ETag of a well-formed handle is not the
"only if absent" header, and is that of the stored object exactly when the bodies are equal. -/
theorem ETag.replace_eq {tag : Val → ETag.Tag} (C : ETag.TagContract tag) (o : ETag.Objects)
    (h : ETag.Handle) (hwf : h.WF tag) (new : Val) :
    (ETag.backend tag ETag.program).replace o h new =
      if o h.key = some h.body then (State.set o h.key new, some ⟨h.key, new, tag new⟩)
      else (o, none) := by
  simp only [ETag.backend, ETag.program, ETag.IfMatch.header, ETag.putObject, Option.map_some]
  rw [hwf, if_neg (C.nonempty _)]
  cases o h.key with
  | none => rfl
  | some cur =>
    by_cases hc : cur = h.body
    · simp [hc]
    · simp [hc, show tag cur ≠ tag h.body from fun e => hc (C.inj _ _ e)]

def sqliteRefinement : Refinement (Sqlite.backend Sqlite.program) :=
  .ofCas (fun t => t) (fun _ => True) .mk (fun _ _ => ⟨rfl, rfl, trivial⟩) rfl (fun _ _ => rfl)
    Sqlite.create_eq (fun t h new _ => Sqlite.replace_eq t h new)

/-- The abstraction keeps the current items and forgets what stale replicas may still hold. -/
def dynamoRefinement : Refinement (Dynamo.backend Dynamo.program) :=
  .ofCas (fun s => s.cur) (fun _ => True) .mk (fun _ _ => ⟨rfl, rfl, trivial⟩) rfl (fun _ _ => rfl)
    (fun s i v => (congrArg (Prod.map Dynamo.Server.cur id) (Dynamo.create_eq s i v)).trans
      (apply_ite ..))
    (fun s h new _ => (congrArg (Prod.map Dynamo.Server.cur id) (Dynamo.replace_eq s h new)).trans
      (apply_ite ..))

def etagRefinement (tag : Val → ETag.Tag) (C : ETag.TagContract tag) :
    Refinement (ETag.backend tag ETag.program) :=
  .ofCas (fun o => o) (ETag.Handle.WF tag) (fun id v => ⟨id, v, tag v⟩) (fun _ _ => ⟨rfl, rfl, rfl⟩) rfl
    (fun o id => by cases h : o id <;> simp [ETag.backend, ETag.getObject, h])
    (ETag.create_eq tag) (fun o h new hwf => ETag.replace_eq C o h hwf new)

/-! ## The witness checker is sound -/

theorem rtOrdered_iff (evs : List Event) : rtOrdered evs = true ↔ evs.Pairwise mayPrecede := by
  induction evs with
  | nil => simp [rtOrdered]
  | cons a rest ih => simp [rtOrdered, mayPrecede, ih]

theorem Accepts_nil (s : State) : Accepts s [] := rfl

theorem Accepts_cons (s : State) (e : Event) (es : List Event) :
    Accepts s (e :: es) ↔ (CasSpec.step s e.op).2 = e.res ∧ Accepts (CasSpec.step s e.op).1 es := by
  simp [Accepts, CasSpec.run]

theorem accepts_iff (s : State) (evs : List Event) : accepts s evs = true ↔ Accepts s evs := by
  induction evs generalizing s with
  | nil => simp [accepts, Accepts_nil]
  | cons e es ih => simp [accepts, Accepts_cons, ih]

theorem filterMap_range_getElem? {α : Type} (l : List α) :
    (List.range l.length).filterMap (fun i => l[i]?) = l := by
  induction l with
  | nil => rfl
  | cons a l ih =>
    rw [List.length_cons, List.range_succ_eq_map, List.filterMap_cons]
    simp only [List.getElem?_cons_zero, List.filterMap_map]
    congr 1

theorem reorder_perm (h : History) (σ : List Nat) (hp : σ.Perm (List.range h.length)) :
    (reorder h σ).Perm h := by
  have := hp.filterMap (fun i => h[i]?)
  rwa [filterMap_range_getElem?] at this

theorem checkWitnessFrom_sound (s : State) (h : History) (σ : List Nat)
    (hc : checkWitnessFrom s h σ = true) : LinearizedBy s h (reorder h σ) := by
  simp only [checkWitnessFrom, Bool.and_eq_true] at hc
  obtain ⟨⟨h1, h2⟩, h3⟩ := hc
  exact ⟨reorder_perm h σ (List.isPerm_iff.1 h1), (rtOrdered_iff _).1 h2, (accepts_iff _ _).1 h3⟩

/-! ## Consequences of linearizability -/

def finalE (s : State) (evs : List Event) : State := CasSpec.final s (evs.map (·.op))

@[simp] theorem finalE_nil (s : State) : finalE s [] = s := rfl

@[simp] theorem finalE_cons (s : State) (e : Event) (es : List Event) :
    finalE s (e :: es) = finalE (CasSpec.step s e.op).1 es := rfl

theorem Accepts_append (s : State) (a b : List Event) :
    Accepts s (a ++ b) ↔ Accepts s a ∧ Accepts (finalE s a) b := by
  induction a generalizing s with
  | nil => simp [Accepts_nil]
  | cons e es ih => simp [Accepts_cons, ih, and_assoc]

theorem finalE_append (s : State) (a b : List Event) :
    finalE s (a ++ b) = finalE (finalE s a) b := by
  induction a generalizing s with
  | nil => rfl
  | cons e es ih => simp [ih]

theorem Event.okReplaceFrom_iff {id : Id} {old : Val} {e : Event} :
    e.okReplaceFrom id old = true ↔ ∃ new, e.op = .replace id old new ∧ e.res = .ok := by
  rcases e with ⟨op, res, inv, ret⟩
  cases op <;> cases res <;> simp [Event.okReplaceFrom]

theorem Event.okCreate_iff {id : Id} {e : Event} :
    e.okCreate id = true ↔ ∃ v, e.op = .create id v ∧ e.res = .ok := by
  rcases e with ⟨op, res, inv, ret⟩
  cases op <;> cases res <;> simp [Event.okCreate]

theorem Event.wrote_replace {e : Event} {id : Id} {old new : Val} (hop : e.op = .replace id old new)
    (hok : e.res = .ok) : e.wrote id = some new := by
  simp [Event.wrote, hop, hok]

theorem Event.wrote_create {e : Event} {id : Id} {v : Val} (hop : e.op = .create id v) (hok : e.res = .ok) :
    e.wrote id = some v := by
  simp [Event.wrote, hop, hok]

/-- What everything below about the values an id takes rests on. -/
theorem step_wrote (s : State) (e : Event) (id : Id) (hres : (CasSpec.step s e.op).2 = e.res) :
    (CasSpec.step s e.op).1 id = (e.wrote id).or (s id) := by
  rcases e with ⟨op, res, inv, ret⟩
  obtain rfl : (CasSpec.step s op).2 = res := hres
  cases op with
  | fetch i => simp only [CasSpec.step, Event.wrote]; split <;> rfl
  | create i w =>
    simp only [CasSpec.step, Event.wrote]
    split
    · simp only [State.set, eq_comm]; split <;> rfl
    · rfl
  | replace i o n =>
    simp only [CasSpec.step, Event.wrote]
    split
    · simp only [State.set, eq_comm]; split <;> rfl
    · rfl

/-! ### read after write -/

theorem finalE_tracks (evs : List Event) : ∀ (s : State) (id : Id) (v : Val),
    Accepts s evs → s id = some v → finalE s evs id = some (lastWrite id v evs) := by
  induction evs with
  | nil => intro s id v _ hs; exact hs
  | cons e es ih =>
    intro s id v ha hs
    obtain ⟨h1, h2⟩ := (Accepts_cons s e es).1 ha
    refine ih _ id _ h2 ?_
    rw [step_wrote s e id h1, hs]
    cases e.wrote id <;> rfl

theorem lastWrite_cases (id : Id) (es : List Event) : ∀ v,
    lastWrite id v es = v ∨ ∃ e ∈ es, e.wrote id = some (lastWrite id v es) := by
  induction es with
  | nil => intro v; exact Or.inl rfl
  | cons e es ih =>
    intro v
    show lastWrite id ((e.wrote id).getD v) es = v ∨
      ∃ x ∈ e :: es, x.wrote id = some (lastWrite id ((e.wrote id).getD v) es)
    rcases ih ((e.wrote id).getD v) with h | ⟨x, hx, hw⟩
    · -- nothing written after `e`: the value is `v`, or what `e` wrote
      rw [h]
      cases hw : e.wrote id with
      | none => exact Or.inl rfl
      | some w => exact Or.inr ⟨e, List.mem_cons_self, hw⟩
    · exact Or.inr ⟨x, List.mem_cons_of_mem _ hx, hw⟩

theorem fetch_res (s : State) (id : Id) (v : Val) (hs : s id = some v) :
    (CasSpec.step s (.fetch id)).2 = .val v := by
  simp [CasSpec.step, hs]

theorem split_by_realtime (evs : List Event) (r f : Event) (hp : evs.Pairwise mayPrecede)
    (hr : r ∈ evs) (hf : f ∈ evs) (hne : r ≠ f) (hrt : r.ret < f.inv) :
    ∃ pre mid post, evs = pre ++ r :: (mid ++ f :: post) := by
  obtain ⟨a, b, rfl⟩ := List.append_of_mem hf
  rcases List.mem_append.1 hr with hra | hrb
  · obtain ⟨pre, mid, rfl⟩ := List.append_of_mem hra
    exact ⟨pre, mid, b, by simp⟩
  · rcases List.mem_cons.1 hrb with e | hrb
    · exact absurd e hne
    · have := (List.pairwise_cons.1 (List.pairwise_append.1 hp).2.1).1 r hrb
      exact absurd hrt this

theorem read_after_write_lin (s : State) (evs : List Event) (r f : Event) (id : Id) (old new : Val)
    (hp : evs.Pairwise mayPrecede) (ha : Accepts s evs)
    (hr : r ∈ evs) (hf : f ∈ evs)
    (hrop : r.op = .replace id old new) (hrok : r.res = .ok) (hfop : f.op = .fetch id)
    (hrt : r.ret < f.inv) :
    ∃ pre mid post, evs = pre ++ r :: (mid ++ f :: post) ∧ f.res = .val (lastWrite id new mid) := by
  have hne : r ≠ f := by intro e; rw [e, hfop] at hrop; cases hrop
  obtain ⟨pre, mid, post, rfl⟩ := split_by_realtime evs r f hp hr hf hne hrt
  refine ⟨pre, mid, post, rfl, ?_⟩
  rw [Accepts_append, Accepts_cons, Accepts_append, Accepts_cons] at ha
  obtain ⟨-, h3, h5, h7, -⟩ := ha
  have hnew : (CasSpec.step (finalE s pre) r.op).1 id = some new := by
    rw [step_wrote _ r id h3, Event.wrote_replace hrop hrok]; rfl
  rw [← h7, hfop, fetch_res _ id _ (finalE_tracks mid _ id new h5 hnew)]

/-! ### how often a replace from one value, and a create, can succeed -/

/-- An accepted step drops at most the head of the list of values `id` takes: the one it starts
with, then each successfully written one. -/
theorem values_step (id : Id) (s : State) (e : Event) (es : List Event)
    (hres : (CasSpec.step s e.op).2 = e.res) :
    ((CasSpec.step s e.op).1 id).toList ++ es.filterMap (Event.wrote id) <:+
      (s id).toList ++ (e :: es).filterMap (Event.wrote id) := by
  rw [step_wrote s e id hres, List.filterMap_cons]
  cases e.wrote id with
  | none => exact List.suffix_refl _
  | some w => exact List.suffix_append _ _

/-- Each successful replace from `old` uses up one occurrence of `old` among the values `id`
takes. With fresh writes that is one at most; A → B → A has two. -/
theorem okReplace_le_count (evs : List Event) : ∀ (s : State) (id : Id) (old : Val), Accepts s evs →
    (evs.filter (Event.okReplaceFrom id old)).length ≤
      ((s id).toList ++ evs.filterMap (Event.wrote id)).count old := by
  induction evs with
  | nil => intros; exact Nat.zero_le _
  | cons e es ih =>
    intro s id old ha
    obtain ⟨h1, h2⟩ := (Accepts_cons s e es).1 ha
    have ih := ih _ id old h2
    rw [List.filter_cons]
    split
    · -- `e` found `old` stored and wrote over it: `old` heads the values, the rest are those after `e`
      rename_i hb
      obtain ⟨new, hop, hok⟩ := Event.okReplaceFrom_iff.1 hb
      have hst : s id = some old := (CasSpec.replace_ok_iff s id old new).1 (by rw [← hop, h1, hok])
      have hw := Event.wrote_replace hop hok
      rw [step_wrote s e id h1, hw] at ih
      rw [hst, List.filterMap_cons, hw]
      simpa using ih
    · exact Nat.le_trans ih ((values_step id s e es h1).sublist.count_le old)

theorem Linearizable.okReplace_le_count {s : State} {h : History} (lin : Linearizable s h)
    (id : Id) (old : Val) :
    (h.filter (Event.okReplaceFrom id old)).length ≤
      ((s id).toList ++ h.filterMap (Event.wrote id)).count old := by
  obtain ⟨evs, hp, _, ha⟩ := lin
  rw [← (hp.filter _).length_eq, ← ((hp.filterMap (Event.wrote id)).append_left _).count_eq]
  exact Lock.okReplace_le_count evs s id old ha

/-- A successful create finds the id missing and leaves it existing for good. -/
theorem okCreate_add_le (evs : List Event) : ∀ (s : State) (id : Id), Accepts s evs →
    (evs.filter (Event.okCreate id)).length + (s id).toList.length ≤ 1 := by
  induction evs with
  | nil => intro s id _; cases s id <;> simp
  | cons e es ih =>
    intro s id ha
    obtain ⟨h1, h2⟩ := (Accepts_cons s e es).1 ha
    have ih := ih _ id h2
    rw [step_wrote s e id h1] at ih
    rw [List.filter_cons]
    split
    · rename_i hb
      obtain ⟨v, hop, hok⟩ := Event.okCreate_iff.1 hb
      have hst : s id = none := (CasSpec.create_ok_iff s id v).1 (by rw [← hop, h1, hok])
      have hw := Event.wrote_create hop hok
      rw [hw] at ih
      simpa [hst] using ih
    · cases hs : s id with
      | none => exact Nat.le_trans (Nat.le_add_right _ _) ih
      | some v => rw [hs] at ih; cases hw : e.wrote id <;> simpa [hw] using ih

theorem Linearizable.okCreate_add_le {s : State} {h : History} (lin : Linearizable s h) (id : Id) :
    (h.filter (Event.okCreate id)).length + (s id).toList.length ≤ 1 := by
  obtain ⟨evs, hp, _, ha⟩ := lin
  rw [← (hp.filter _).length_eq]
  exact Lock.okCreate_add_le evs s id ha

end Lock
