import Proofs.LocalFSCompare
import Proofs.LocalFSKeys
import Proofs.LocalFSInv
/-! # `LocalBackend.Upload` (C13): crash safety, order, immutable semantics, confinement.

Crash safety of `Upload` is a candidate argument. Along the system-call trace the states are tracked
exactly (`WState`: the record of the parent directory and the new inode), so the candidates for the
object's name are computed state by state, and `crash_object_last` turns them into the objects a crash
can leave. While `MkdirAll` runs the path is `Blocked`: some level has no candidate but "absent"; `MkdirAllRun`
describes its calls level by level on the path.
`uploadTrace_cases` is the one description of the structure of `Upload` from which atomicity, order,
confinement and the invariant `Inv` all start; the immutable semantics needs its compare case only
(`uploadTrace_compare`). -/
namespace LocalFS

/-- After power loss in state `t`, the object at `path` is the complete old or the complete new one. -/
def OldOrNew (path : Path) (old : Option Bytes) (new : Bytes) (t : FS) : Prop :=
  ∀ c, (crash c t).object path = old ∨ (crash c t).object path = some new

/-- Issuing `tr.1` from `s` is crash-safe for the object at `path` (after any prefix, power loss leaves `old`
or `new`), and if the result `tr.2` is ok, `new` is there and everything is on disk. -/
structure SafeUpload (path : Path) (old : Option Bytes) (new : Bytes) (s : FS) (tr : List Sys × Result) : Prop where
  safe : SafeAlong (OldOrNew path old new) s tr.1
  done : tr.2 = .ok → Quiescent (run s tr.1) ∧ (run s tr.1).object path = some new

theorem SafeUpload.append {path : Path} {old : Option Bytes} {new : Bytes} {s : FS} {a b : List Sys} {r : Result}
    (ha : SafeAlong (OldOrNew path old new) s a) (hb : SafeUpload path old new (run s a) (b, r)) :
    SafeUpload path old new s (a ++ b, r) :=
  ⟨safeAlong_append ha hb.safe, fun h => by rw [run_append]; exact hb.done h⟩

theorem oldOrNew_quiescent (s : FS) (hq : Quiescent s) (path : Path) (new : Bytes) :
    OldOrNew path (s.object path) new s := by
  intro c; rw [crash_quiescent c s hq]; exact Or.inl rfl

theorem oldOrNew_of_blocked {t : FS} {path : Path} {new : Bytes} (h : Blocked t path) : OldOrNew path none new t :=
  fun c => .inl (object_of_lookup_none (crash_lookup_blocked c h))

/-! ## The write phase: `durable.WriteFile` from a quiescent state -/

/-- The key lemma: in a write-phase state whose candidates for the object's name are the old entry
or the new inode (the latter only once it is synced with the new bytes), every crash yields old or new. -/
theorem WState.oldOrNew {t1 t : FS} {par : Path} {i : Nat} {dk : Dir} {fi : Option File} {d : Dir}
    (base : Name) (new : Bytes)
    (h : WState t1 t par i dk fi) (hS : Solid t1 (par ++ [base])) (hq : Quiescent t1)
    (hd : t1.dirs par = some d) (hfresh : d.durable base ≠ some (.file i))
    (hc : ∀ x ∈ cands dk base, x = d.durable base ∨
      x = some (.file i) ∧ ∃ f, fi = some f ∧ f.synced = true ∧ f.data = new) :
    OldOrNew (par ++ [base]) (t1.object (par ++ [base])) new t := by
  intro c
  obtain ⟨x, hx, hobj⟩ := crash_object_last c (h.solid base hS) h.dirs_par
  rw [hobj]
  rcases hc x hx with rfl | ⟨rfl, f, rfl, hs, hdat⟩
  · -- the old entry names an inode other than `i`: untouched, and synced as everything in `t1`
    left
    have hf : ∀ j, d.durable base = some (.file j) → t.files j = t1.files j :=
      fun j hj => h.files_other j fun e => hfresh (e ▸ hj)
    rw [nodeObj_crash_synced c t _ fun j f hj hf' => hq.2 j f (hf j hj ▸ hf'), object_eq_nodeObj,
      lookup_settled hq hS hd]
    cases hdb : d.durable base with
    | none => rfl
    | some nd => cases nd with
      | dir => rfl
      | file j => simp only [nodeObj, hf j hdb]
  · right
    rw [nodeObj_crash_synced c t _ fun j f' hj hf' => by cases hj; rw [h.files_i] at hf'; cases hf'; exact hs]
    simp [nodeObj, h.files_i, hdat]

theorem tmpName_ne_base (base rnd : Name) : tmpName base rnd ≠ base := by
  intro h
  have := congrArg List.length h
  simp [tmpName, dot] at this
  omega

/-- `durable.WriteFile` up to its deferred rename. -/
def writeStart (par : Path) (tmp : Name) (i : Nat) (data : Bytes) (perm : Nat) : List Sys :=
  [.openDir par, .creat (par ++ [tmp]) i, .fchmod (par ++ [tmp]) i perm, .write (par ++ [tmp]) i data,
   .fsync (par ++ [tmp]) i, .close (par ++ [tmp])]

/-- The deferred rename (or removal) and the deferred close of the parent. -/
def writeEnd (par : Path) (base tmp : Name) (i : Nat) : RenameOutcome → List Sys
  | .renamed existed =>
    [.lstat (par ++ [base]) existed, .rename (par ++ [tmp]) (par ++ [base]) (.file i) true, .fsyncDir par, .closeDir par]
  | .targetIsDir => [.lstat (par ++ [base]) true, .lstat (par ++ [tmp]) true, .unlink (par ++ [tmp]), .closeDir par]
  | .targetImmutable =>
    [.lstat (par ++ [base]) true, .rename (par ++ [tmp]) (par ++ [base]) (.file i) false, .unlink (par ++ [tmp]),
     .closeDir par]

theorem writeFileTrace_eq (s : FS) (par : Path) (base : Name) (data : Bytes) (perm : Nat) (rnd : Name) :
    writeFileTrace s (par ++ [base]) data perm rnd =
      (writeStart par (tmpName base rnd) s.next data perm ++
        writeEnd par base (tmpName base rnd) s.next (renameOutcome s (par ++ [base])),
       if (renameOutcome s (par ++ [base])).failed then .error else .ok) := by
  cases h : renameOutcome s (par ++ [base]) <;>
    simp [writeFileTrace, h, execOrder, writeFileProgram, effSys, RenameOutcome.failed, writeStart, writeEnd]

/-- The tail of an immutable first upload: the best-effort inode flag. -/
def immTail (path : Path) (i : Nat) (imm : Bool) : List Sys :=
  if imm then [.openRd path true, .setImmutable path i true, .closeRd path] else []

/-- What `Upload` does when it writes: (the failed `os.Open` of an immutable upload,) `WriteFile`, (the inode flag). -/
def writeBranch (s : FS) (path : Path) (data : Bytes) (imm : Bool) (rnd : Name) : List Sys × Result :=
  ((if imm then [.openRd path false] else []) ++
    ((writeFileTrace s path data (if imm then modeImmutable else modeDefault) rnd).1 ++
      (if (writeFileTrace s path data (if imm then modeImmutable else modeDefault) rnd).2 = .ok
        then immTail path s.next imm else [])),
   (writeFileTrace s path data (if imm then modeImmutable else modeDefault) rnd).2)

/-- `hfresh`: the inode `creat` is about to hand out is not the one the old entry names. It comes from
`FreshInodes`, or from the parent being new and empty (`mkdirAll_write_safe`). -/
theorem writeBranch_safe {t1 : FS} {par : Path} {base : Name} {d : Dir} (rnd : Name) (data : Bytes) (imm : Bool)
    (hq : Quiescent t1) (hS : Solid t1 (par ++ [base])) (hd : t1.dirs par = some d)
    (hfresh : d.durable base ≠ some (.file t1.next)) :
    SafeUpload (par ++ [base]) (t1.object (par ++ [base])) data t1 (writeBranch t1 (par ++ [base]) data imm rnd) := by
  have hp : d.pending = [] := hq.1 par d hd
  have htmp := tmpName_ne_base base rnd
  have safe := fun {t dk fi} (h : WState t1 t par t1.next dk fi) => h.oldOrNew base data hS hq hd hfresh
  -- The states passed through, each after the call it is named for. By the definition of `step`, `fchmod`,
  -- `write`, `fsync` and `setImmutable` are a `modFile`. Below, one item per call of the trace: `.cons q` for a
  -- call issued in a state where `q` shows old-or-new, `.skip rfl` for a call without effect.
  have initial := WState.init t1.next hd
  have created := initial.creat (tmpName base rnd)
  have chmodded := created.modFile fun f => { f with mode := if imm then modeImmutable else modeDefault }
  have written := chmodded.modFile fun f => { f with data := f.data ++ data, synced := false }
  have synced := written.modFile fun f => { f with synced := true }
  -- until the rename the only candidate for `base` is the old entry
  have q0 := safe initial fun x hx => .inl (by simpa [cands, hp] using hx)
  have pre {t fi} (h : WState t1 t par t1.next
      { d with pending := d.pending ++ [(tmpName base rnd, some (.file t1.next))] } fi) :=
    safe h fun x hx => .inl (by simpa [cands, hp, htmp] using hx)
  have hopen : ∀ e ∈ (if imm then [Sys.openRd (par ++ [base]) false] else []), e.inert = true := by
    cases imm <;> simp [Sys.inert]
  unfold writeBranch
  rw [writeFileTrace_eq, List.append_assoc]
  refine .append (safeAlong_inert hopen q0) ?_
  rw [run_inert t1 _ hopen]
  refine .append (a := writeStart ..) (.skip rfl <| .cons q0 <| .cons (pre created) <| .cons (pre chmodded) <|
    .cons (pre written) <| .skip rfl <| .nil (pre synced)) ?_
  cases renameOutcome t1 (par ++ [base]) with
  | renamed existed =>
    simp only [RenameOutcome.failed, Bool.false_eq_true, if_false, if_true]
    have renamed := synced.rename (tmpName base rnd) base (.file t1.next)
    have parentSynced := renamed.fsyncDir
    have qren := safe renamed fun x hx => by
      simp [cands, hp, htmp] at hx
      rcases hx with rfl | rfl
      · exact .inl rfl
      · exact .inr ⟨rfl, _, rfl, rfl, by simp⟩
    -- once the parent is synced the new inode is the only candidate; the inode flag changes neither
    -- its bytes nor `synced`
    have atEnd {t : FS} {m : Name → Option Node} {f : File}
        (h : WState t1 t par t1.next { durable := m, pending := [] } (some f))
        (hm : m base = some (.file t1.next)) (hs : f.synced = true) (hdat : f.data = data) :
        OldOrNew (par ++ [base]) (t1.object (par ++ [base])) data t ∧
          Quiescent t ∧ t.object (par ++ [base]) = some data :=
      ⟨safe h fun x hx => .inr ⟨by simpa [hm] using hx, f, rfl, hs, hdat⟩, h.quiescent hq rfl hs,
        by rw [object_last (h.solid base hS) h.dirs_par, vol_nil_pending, hm]; simp [nodeObj, h.files_i, hdat]⟩
    have hm : Dir.vol { d with pending := d.pending ++ [(tmpName base rnd, some (.file t1.next))] ++
        [(base, some (.file t1.next))] ++ [(tmpName base rnd, none)] } base = some (.file t1.next) := by
      simp [Dir.vol, hp, upd, htmp.symm]
    obtain ⟨qend, fin⟩ := atEnd parentSynced hm rfl (by simp)
    refine .append (a := writeEnd ..) (.skip rfl <| .cons (pre synced) <| .cons qren <| .skip rfl <| .nil qend) ?_
    cases imm
    · exact ⟨.nil qend, fun _ => fin⟩
    · obtain ⟨qflag, finflag⟩ := atEnd (parentSynced.modFile fun f => { f with immutable := true }) hm rfl (by simp)
      exact ⟨.skip rfl <| .cons qend <| .skip rfl <| .nil qflag, fun _ => finflag⟩
  | targetIsDir | targetImmutable =>
    -- a failed rename: the temporary file is removed again, the candidates for `base` stay as they are
    have qf := safe (synced.unlink (tmpName base rnd)) fun x hx => .inl (by simpa [cands, hp, htmp] using hx)
    simp only [RenameOutcome.failed, if_true, reduceCtorEq, if_false, List.append_nil]
    exact ⟨.skip rfl <| .skip rfl <| .cons (pre synced) <| .skip rfl <| .nil qf, nofun⟩

theorem writeBranch_mem {s : FS} {par : Path} {base : Name} {data : Bytes} {imm : Bool} {rnd : Name} :
    ∀ e ∈ (writeBranch s (par ++ [base]) data imm rnd).1, (∀ p, e ≠ .mkdir p) ∧ ∀ x ∈ e.paths, Within par x := by
  cases h : renameOutcome s (par ++ [base]) <;> cases imm <;>
    simp [writeBranch, writeFileTrace_eq, h, writeStart, writeEnd, immTail, RenameOutcome.failed, Sys.paths, Within]

/-! ## `durable.Mkdir` and `durable.MkdirAll` -/

theorem mkdirTrace_eq (p : Path) : mkdirTrace p =
    [.openDir (parentOf p), .mkdir p, .openDir p, .fsyncDir p, .closeDir p, .fsyncDir (parentOf p), .closeDir (parentOf p)] := by
  simp [mkdirTrace, execOrder, mkdirProgram, effSys, RenameOutcome.failed]

theorem mkdirTrace_mem {q : Path} {n : Name} :
    ∀ e ∈ mkdirTrace (q ++ [n]), e.okAt 0 = true ∧ ∀ x ∈ e.paths, Within q x := by
  simp [mkdirTrace_eq, Sys.okAt, Sys.paths, Within]

/-- What a successful `durable.MkdirAll(p)` achieves from a quiescent state in which `p` is missing. -/
structure MkdirAllPost (s : FS) (p : Path) (mks : List Sys) : Prop where
  blocked : ∀ r rs, SafeAlong (fun t => Blocked t (p ++ r :: rs)) s mks
  quiescent : Quiescent (run s mks)
  fresh : (run s mks).dirs p = some Dir.empty
  solid : ∀ x, Solid (run s mks) (p ++ [x])
  files : (run s mks).files = s.files
  next : (run s mks).next = s.next
  absent : s.lookup p = none

theorem MkdirAllPost.mkdir {t : FS} {q : Path} {n : Name} {d : Dir} (hq : Quiescent t) (hS : Solid t (q ++ [n]))
    (hd : t.dirs q = some d) (hn : d.durable n = none) : MkdirAllPost t (q ++ [n]) (mkdirTrace (q ++ [n])) := by
  have hp : d.pending = [] := hq.1 q d hd
  have d1 (x : Path) : (step t (.mkdir (q ++ [n]))).dirs x =
      if x = q then some { d with pending := d.pending ++ [(n, some .dir)] }
      else if x = q ++ [n] then some Dir.empty else t.dirs x := by
    simp only [step_mkdir_concat, mapDir_dirs, FS.setDir, hd]; split <;> simp_all
  have e1 : (step t (.mkdir (q ++ [n]))).dirs (q ++ [n]) = some Dir.empty := by simp [d1]
  have e2 : step (step t (.mkdir (q ++ [n]))) (.fsyncDir (q ++ [n])) = step t (.mkdir (q ++ [n])) :=
    fsyncDir_of_no_pending e1 rfl
  have hrun : run t (mkdirTrace (q ++ [n])) =
      step (step (step t (.mkdir (q ++ [n]))) (.fsyncDir (q ++ [n]))) (.fsyncDir q) := by
    rw [mkdirTrace_eq, parentOf_concat]; rfl
  have d3 (x : Path) : (run t (mkdirTrace (q ++ [n]))).dirs x =
      if x = q then some { durable := upd d.durable n (some .dir), pending := [] }
      else if x = q ++ [n] then some Dir.empty else t.dirs x := by
    simp only [hrun, e2, fsyncDir_eq_mapDir, mapDir_dirs, d1]; split <;> simp_all [Dir.vol]
  -- below `q ++ [n]` nothing can resolve: first the entry `n` is missing, then the new directory is empty
  have b0 (r : Name) (rs : Path) : Blocked t (q ++ [n] ++ r :: rs) :=
    ⟨q, n, r :: rs, by simp, fun d' hd' x hx => by
      rw [hd] at hd'; cases hd'; simpa [cands, hp, hn] using hx⟩
  have b1 (s : FS) (hs : s.dirs (q ++ [n]) = some Dir.empty) (r : Name) (rs : Path) : Blocked s (q ++ [n] ++ r :: rs) :=
    ⟨q ++ [n], r, rs, by simp, fun d' hd' x hx => by
      rw [hs] at hd'; cases hd'; simpa [Dir.empty] using hx⟩
  have e3 : (run t (mkdirTrace (q ++ [n]))).dirs (q ++ [n]) = some Dir.empty := by simp [d3]
  exact {
    blocked := fun r rs => by
      have b1' := b1 _ e1 r rs
      have b3 := b1 _ e3 r rs
      rw [hrun] at b3
      rw [mkdirTrace_eq, parentOf_concat]
      -- one item per call: blocked before the `mkdir`, after it, after each of the two `fsync`s
      exact .skip rfl <| .cons (b0 r rs) <| .skip rfl <| .cons b1' <| .skip rfl <| .cons (e2.symm ▸ b1') <|
        .skip rfl <| .nil b3
    quiescent := by
      refine ⟨fun p d' hd' => ?_, fun i f hf => ?_⟩
      · rw [d3] at hd'
        split at hd'
        · cases hd'; rfl
        · split at hd'
          · cases hd'; rfl
          · exact hq.1 p d' hd'
      · rw [hrun] at hf; simp at hf; exact hq.2 i f hf
    fresh := e3
    solid := fun x => by
      apply solid_extend
      · refine solid_congr (fun a m b hab => ?_) hS
        have h1 : a ≠ q := by rintro rfl; simp at hab
        have h2 : a ≠ q ++ [n] := by rintro rfl; simpa using congrArg List.length hab
        simp [d3, h1, h2]
      · exact ⟨{ durable := upd d.durable n (some .dir), pending := [] }, by simp [d3], by simp [upd], by simp⟩
    files := by rw [hrun]; simp
    next := by rw [hrun]; simp
    absent := by rw [lookup_settled hq hS hd, hn] }

theorem MkdirAllPost.append_mkdir {s : FS} {q : Path} {mks : List Sys} (h : MkdirAllPost s q mks) (n : Name)
    (hl : s.lookup (q ++ [n]) = none) : MkdirAllPost s (q ++ [n]) (mks ++ mkdirTrace (q ++ [n])) := by
  have h' := MkdirAllPost.mkdir h.quiescent (h.solid n) h.fresh rfl
  have e := run_append s mks (mkdirTrace (q ++ [n]))
  exact {
    blocked := fun r rs => safeAlong_append (by simpa using h.blocked n (r :: rs)) (h'.blocked r rs)
    quiescent := e ▸ h'.quiescent
    fresh := e ▸ h'.fresh
    solid := e ▸ h'.solid
    files := e ▸ h'.files.trans h.files
    next := e ▸ h'.next.trans h.next
    absent := hl }

/-- `durable.MkdirAll(p)` in state `s`, level by level on the path itself: it issues the `os.Stat` calls `stats`
going up to the first level that exists, then the calls `mks` of one `Mkdir` per missing level going down, and
succeeds iff `ok` (a level that exists is a directory). -/
inductive MkdirAllRun (s : FS) : Path → List Sys → List Sys → Bool → Prop where
  | dir {p : Path} : s.lookup p = some .dir → MkdirAllRun s p [.stat p true] [] true
  | file {p : Path} {i : Nat} : s.lookup p = some (.file i) → MkdirAllRun s p [.stat p true] [] false
  | missing {q : Path} {n : Name} {stats mks : List Sys} {ok : Bool} :
      s.lookup (q ++ [n]) = none → MkdirAllRun s q stats mks ok →
      MkdirAllRun s (q ++ [n]) (.stat (q ++ [n]) false :: stats) (if ok then mks ++ mkdirTrace (q ++ [n]) else mks) ok

theorem mkdirAllTrace_run (s : FS) (p : Path) :
    ∃ stats mks ok, MkdirAllRun s p stats mks ok ∧ mkdirAllTrace s p = (stats ++ mks, ok) := by
  have H (rp : List Name) :
      MkdirAllRun s rp.reverse (mkdirAllRev s rp).1 (mkdirAllRev s rp).2.1 (mkdirAllRev s rp).2.2 := by
    fun_induction mkdirAllRev s rp with
    | case1 => exact .dir rfl
    | case2 n rq p hl => exact .dir hl
    | case3 n rq p i hl => exact .file hl
    | case4 n rq p hl r ih =>
      have hp : p = rq.reverse ++ [n] := List.reverse_cons
      rw [List.reverse_cons, ← hp]
      exact hp ▸ .missing (hp ▸ hl) ih
  have h := H p.reverse
  rw [List.reverse_reverse] at h
  exact ⟨_, _, _, h, rfl⟩

theorem mkdirAllTrace_existing (s : FS) (p : Path) (h : s.lookup p = some .dir) :
    mkdirAllTrace s p = ([.stat p true], true) := by
  rcases List.eq_nil_or_concat p with rfl | ⟨q, n, rfl⟩
  · rfl
  · simp only [List.concat_eq_append] at h ⊢
    simp [mkdirAllTrace, mkdirAllRev, h]

section MkdirAllRun
variable {s : FS} {p : Path} {stats mks : List Sys} {ok : Bool}

theorem MkdirAllRun.stats_inert (h : MkdirAllRun s p stats mks ok) : ∀ e ∈ stats, e.inert = true := by
  induction h <;> simp_all [Sys.inert]

theorem MkdirAllRun.fail (h : MkdirAllRun s p stats mks ok) (hok : ok = false) : mks = [] := by
  induction h <;> simp_all

theorem MkdirAllRun.spec (h : MkdirAllRun s p stats mks ok) (hok : ok = true) (hq : Quiescent s) (hwf : WF s) :
    (s.lookup p = some .dir ∧ mks = []) ∨ MkdirAllPost s p mks := by
  induction h with
  | dir hl => exact .inl ⟨hl, rfl⟩
  | file => cases hok
  | @missing q n _ _ _ hl _ ih =>
    rw [if_pos hok]
    right
    rcases ih hok with ⟨hdir, rfl⟩ | hpost
    · obtain ⟨d, hd⟩ := lookup_dir_record hq hwf hdir
      have hS := lookup_dir_solid hq hdir n
      exact .mkdir hq hS hd ((lookup_settled hq hS hd).symm.trans hl)
    · exact hpost.append_mkdir n hl

theorem MkdirAllRun.mks_eq (h : MkdirAllRun s p stats mks ok) :
    ∃ ps : List Path, mks = ps.flatMap mkdirTrace ∧ ∀ x ∈ ps, ∃ q n, x = q ++ [n] := by
  induction h with
  | dir | file => exact ⟨[], rfl, nofun⟩
  | @missing q n _ _ ok _ _ ih =>
    obtain ⟨ps, rfl, hps⟩ := ih
    cases ok
    · exact ⟨ps, rfl, hps⟩
    · exact ⟨ps ++ [q ++ [n]], by simp, List.forall_mem_append.2 ⟨hps, fun x hx => ⟨q, n, List.mem_singleton.1 hx⟩⟩⟩

theorem MkdirAllRun.within (h : MkdirAllRun s p stats mks ok) {dir : Path} (hdir : s.lookup dir = some .dir)
    (hp : Within dir p) : (∀ e ∈ stats, ∀ x ∈ e.paths, Within dir x) ∧ ∀ e ∈ mks, ∀ x ∈ e.paths, Within dir x := by
  have hstat {p b} (hp : Within dir p) : ∀ x ∈ (Sys.stat p b).paths, Within dir x := by simpa [Sys.paths] using hp
  induction h with
  | dir | file => exact ⟨List.forall_mem_singleton.2 (hstat hp), nofun⟩
  | @missing q n stats mks ok hl _ ih =>
    -- `dir` exists and `q ++ [n]` does not, so `dir` is at or above `q`
    have hq : Within dir q := (List.prefix_concat_iff.1 hp).resolve_left fun e => by rw [← e, hdir] at hl; cases hl
    obtain ⟨ihs, ihm⟩ := ih hq
    refine ⟨List.forall_mem_cons.2 ⟨hstat hp, ihs⟩, ?_⟩
    cases ok
    · exact ihm
    · exact List.forall_mem_append.2 ⟨ihm, fun e he x hx => hq.trans ((mkdirTrace_mem e he).2 x hx)⟩

end MkdirAllRun

/-! ## The structure of `Upload` -/

/-- `Upload` of immutable data over an existing object: `MkdirAll` finds the parent directory; then `os.Open`,
`compareFile`, the deferred `Close` (a hang never reaches it). -/
def compareUpload (P : Program) (s : FS) (par : Path) (base : Name) (data : Bytes) : List Sys × Result :=
  (.stat par true :: .openRd (par ++ [base]) true :: (compareTrace P s (par ++ [base]) data).1 ++
    (if (compareTrace P s (par ++ [base]) data).2 = .hang then [] else [.closeRd (par ++ [base])]),
   (compareTrace P s (par ++ [base]) data).2)

theorem compareUpload_mem {P : Program} {s : FS} {par : Path} {base : Name} {data : Bytes} :
    ∀ e ∈ (compareUpload P s par base data).1, e.inert = true ∧ ∀ x ∈ e.paths, Within par x := by
  have hp : ∀ x ∈ [par], Within par x := by simp [Within]
  have hb : ∀ x ∈ [par ++ [base]], Within par x := by simp [Within]
  intro e he
  simp only [compareUpload, List.mem_cons, List.mem_append] at he
  rcases he with (rfl | rfl | he) | he
  · exact ⟨rfl, hp⟩
  · exact ⟨rfl, hb⟩
  · unfold compareTrace at he
    cases hf : s.fileAt (par ++ [base]) with
    | none => simp only [hf, List.mem_singleton] at he; subst he; exact ⟨rfl, hb⟩
    | some f => simp only [hf, List.mem_map] at he; obtain ⟨x, _, rfl⟩ := he; exact ⟨rfl, hb⟩
  · split at he
    · cases he
    · rw [List.mem_singleton] at he; subst he; exact ⟨rfl, hb⟩

theorem compareTrace_snd (P : Program) (s : FS) (path : Path) (data : Bytes) :
    (compareTrace P s path data).2 =
      match s.fileAt path with
      | some f => if 0 < P.bufLen data.length then (if f.data = data then .ok else .mismatch) else .hang
      | none => .mismatch := by
  unfold compareTrace
  cases s.fileAt path with
  | none => rfl
  | some f =>
    simp only [compareFile_verdict]
    by_cases hc : 0 < P.bufLen data.length <;> by_cases hd : f.data = data <;> simp [hc, hd]

theorem compareTrace_ok {P : Program} {s : FS} {path : Path} {data : Bytes}
    (h : (compareTrace P s path data).2 = .ok) : s.object path = some data := by
  rw [compareTrace_snd] at h
  rw [object_eq_fileAt]
  cases hf : s.fileAt path with
  | none => simp [hf] at h
  | some f =>
    by_cases hd : f.data = data
    · simp [hd]
    · simp only [hf, hd, if_false] at h
      split at h <;> cases h

theorem uploadTrace_compare (P : Program) (data : Bytes) (o : Opts) (rnd : Name) (s : FS) {dir : Path} {key : Bytes}
    {comps par : Path} {base : Name} (hloc : localize key = some comps) (hpath : dir ++ comps = par ++ [base])
    (himm : o.immutable = true) (hl : s.lookup (par ++ [base]) ≠ none) :
    uploadTrace P dir key data o rnd s = compareUpload P s par base data := by
  obtain ⟨nd, hnd⟩ := Option.ne_none_iff_exists'.1 hl
  simp [uploadTrace, hloc, hpath, mkdirAllTrace_existing s par (lookup_parent_dir hl), himm, hnd, compareUpload]

/-- The three ways an `Upload` to the path `par ++ [base]` can go; `tr` is its trace and result. -/
inductive UploadCase (P : Program) (s : FS) (par : Path) (base : Name) (data : Bytes) (o : Opts) (rnd : Name)
    (tr : List Sys × Result) : Prop where
  /-- `MkdirAll` fails (a level of `par` is a file): only its `os.Stat` calls are issued. -/
  | mkdirFailed (stats : List Sys) (mkdirAll : MkdirAllRun s par stats [] false) (trace : tr = (stats, .error))
  /-- An immutable upload finds the path taken: it compares and writes nothing. -/
  | compare (immutable : o.immutable = true) (taken : s.lookup (par ++ [base]) ≠ none)
      (trace : tr = compareUpload P s par base data)
  /-- Otherwise: `MkdirAll` succeeds, then the write. -/
  | write (stats mks : List Sys) (mkdirAll : MkdirAllRun s par stats mks true)
      (writes : o.immutable = false ∨ s.lookup (par ++ [base]) = none)
      (trace : tr = (stats ++ (mks ++ (writeBranch s (par ++ [base]) data o.immutable rnd).1),
        (writeBranch s (par ++ [base]) data o.immutable rnd).2))

theorem uploadTrace_cases (P : Program) (data : Bytes) (o : Opts) (rnd : Name) (s : FS) {dir : Path} {key : Bytes}
    {comps par : Path} {base : Name} (hloc : localize key = some comps) (hpath : dir ++ comps = par ++ [base]) :
    UploadCase P s par base data o rnd (uploadTrace P dir key data o rnd s) := by
  by_cases hc : o.immutable = true ∧ s.lookup (par ++ [base]) ≠ none
  · exact .compare hc.1 hc.2 (uploadTrace_compare P data o rnd s hloc hpath hc.1 hc.2)
  · have hw : o.immutable = false ∨ s.lookup (par ++ [base]) = none := by
      cases hi : o.immutable
      · exact .inl rfl
      · exact .inr (Decidable.not_not.1 fun h => hc ⟨hi, h⟩)
    obtain ⟨stats, mks, ok, hmk, htr⟩ := mkdirAllTrace_run s par
    cases ok with
    | false =>
      obtain rfl := hmk.fail rfl
      exact .mkdirFailed stats hmk (by simp [uploadTrace, hloc, hpath, htr])
    | true =>
      refine .write stats mks hmk hw ?_
      rcases hw with hi | hl
      · simp [uploadTrace, hloc, hpath, htr, hi, writeBranch, immTail]
      · cases hi : o.immutable <;> simp [uploadTrace, hloc, hpath, htr, hi, hl, writeBranch, immTail]

/-! ## Atomicity and durability of `Upload` -/

theorem writeBranch_congr {s t : FS} {path : Path} {data : Bytes} {imm : Bool} {rnd : Name}
    (hn : s.next = t.next) (hl : s.lookup path = t.lookup path) (hf : s.files = t.files) :
    writeBranch s path data imm rnd = writeBranch t path data imm rnd := by
  simp [writeBranch, writeFileTrace, renameOutcome, hn, hl, hf]

theorem mkdirAll_write_safe {s : FS} {par : Path} {stats mks : List Sys} (hmk : MkdirAllRun s par stats mks true)
    (base rnd : Name) (data : Bytes) (imm : Bool) (hq : Quiescent s) (hwf : WF s) (hfr : FreshInodes s) :
    SafeUpload (par ++ [base]) (s.object (par ++ [base])) data s
      (mks ++ (writeBranch s (par ++ [base]) data imm rnd).1, (writeBranch s (par ++ [base]) data imm rnd).2) := by
  rcases hmk.spec rfl hq hwf with ⟨hdir, rfl⟩ | hpost
  · obtain ⟨d, hd⟩ := lookup_dir_record hq hwf hdir
    exact writeBranch_safe rnd data imm hq (lookup_dir_solid hq hdir base) hd
      fun h => Nat.lt_irrefl _ (hfr par d base _ hd h)
  · -- while `MkdirAll` runs the path is blocked; it leaves an empty parent, everything on disk, and changes nothing else
    have hl0 : s.lookup (par ++ [base]) = none := lookup_blocked (hpost.blocked base [] 0)
    have hl1 : (run s mks).lookup (par ++ [base]) = none :=
      lookup_settled hpost.quiescent (hpost.solid base) hpost.fresh
    have hwp := writeBranch_safe rnd data imm hpost.quiescent (hpost.solid base) hpost.fresh
      (by simp [Dir.empty])
    rw [object_of_lookup_none hl1, writeBranch_congr hpost.next (hl1.trans hl0.symm) hpost.files] at hwp
    rw [object_of_lookup_none hl0]
    exact .append (fun k => oldOrNew_of_blocked (hpost.blocked base [] k)) hwp

theorem upload_atomic_durable (P : Program) (dir : Path) (key data : Bytes) (o : Opts) (rnd : Name) (s : FS)
    (comps : Path) (hq : Quiescent s) (hwf : WF s) (hfr : FreshInodes s) (hloc : localize key = some comps) :
    SafeUpload (dir ++ comps) (s.object (dir ++ comps)) data s (uploadTrace P dir key data o rnd s) := by
  obtain ⟨par, base, _, hpath⟩ := localize_split dir hloc
  rw [hpath]
  have Q0 := oldOrNew_quiescent s hq (par ++ [base]) data
  cases uploadTrace_cases P data o rnd s hloc hpath with
  | mkdirFailed stats hmk e => rw [e]; exact ⟨safeAlong_inert hmk.stats_inert Q0, fun h => nomatch h⟩
  | compare _ _ e =>
    rw [e]
    have hin : ∀ e ∈ (compareUpload P s par base data).1, e.inert = true := fun e he => (compareUpload_mem e he).1
    exact ⟨safeAlong_inert hin Q0, fun hres => by
      rw [run_inert s _ hin]; exact ⟨hq, compareTrace_ok hres⟩⟩
  | write stats mks hmk _ e =>
    rw [e]
    exact .append (safeAlong_inert hmk.stats_inert Q0) (by
      rw [run_inert s _ hmk.stats_inert]; exact mkdirAll_write_safe hmk base rnd data o.immutable hq hwf hfr)

/-! ## Order of the system calls -/

theorem not_inert_mkdir {e : Sys} {p : Path} (h : e.inert = true) : e ≠ .mkdir p := by
  rintro rfl; cases h

theorem upload_mkdir_order (P : Program) (dir : Path) (key data : Bytes) (o : Opts) (rnd : Name) (s : FS) (p : Path)
    (h : Sys.mkdir p ∈ (uploadTrace P dir key data o rnd s).1) :
    ∃ A D, (uploadTrace P dir key data o rnd s).1 = A ++ mkdirTrace p ++ D := by
  cases hloc : localize key with
  | none => simp [uploadTrace, hloc] at h
  | some comps =>
    obtain ⟨par, base, _, hpath⟩ := localize_split dir hloc
    cases uploadTrace_cases P data o rnd s hloc hpath with
    | mkdirFailed stats hmk e => rw [e] at h; exact absurd rfl (not_inert_mkdir (hmk.stats_inert _ h))
    | compare _ _ e => rw [e] at h; exact absurd rfl (not_inert_mkdir (compareUpload_mem _ h).1)
    | write stats mks hmk _ e =>
      rw [e] at h ⊢
      simp only [List.mem_append] at h
      rcases h with hm | hm | hm
      · exact absurd rfl (not_inert_mkdir (hmk.stats_inert _ hm))
      · -- among the `Mkdir` blocks of `MkdirAll`, `mkdir p` is in the block of `p`
        obtain ⟨ps, rfl, _⟩ := hmk.mks_eq
        obtain ⟨p', hp', hm⟩ := List.mem_flatMap.1 hm
        obtain rfl : p = p' := by rw [mkdirTrace_eq] at hm; simpa using hm
        obtain ⟨as, ds, rfl⟩ := List.append_of_mem hp'
        exact ⟨stats ++ as.flatMap mkdirTrace,
          ds.flatMap mkdirTrace ++ (writeBranch s (par ++ [base]) data o.immutable rnd).1, by simp⟩
      · exact absurd rfl ((writeBranch_mem _ hm).1 p)

theorem upload_write_order (P : Program) (dir : Path) (key data : Bytes) (o : Opts) (rnd : Name) (s : FS)
    (comps par : Path) (base : Name) (hloc : localize key = some comps) (hpath : dir ++ comps = par ++ [base])
    (hres : (uploadTrace P dir key data o rnd s).2 = .ok)
    (hw : o.immutable = false ∨ s.lookup (par ++ [base]) = none) :
    ∃ A D existed, (uploadTrace P dir key data o rnd s).1 =
        A ++ (writeStart par (tmpName base rnd) s.next data (if o.immutable then modeImmutable else modeDefault) ++
          writeEnd par base (tmpName base rnd) s.next (.renamed existed)) ++ D := by
  cases uploadTrace_cases P data o rnd s hloc hpath with
  | mkdirFailed _ _ e => rw [e] at hres; cases hres
  | compare himm hl _ =>
    rcases hw with h | h
    · rw [h] at himm; cases himm
    · exact absurd h hl
  | write stats mks _ _ e =>
    rw [e] at hres ⊢
    simp only [writeBranch, writeFileTrace_eq] at hres ⊢
    cases ho : renameOutcome s (par ++ [base]) with
    | renamed existed =>
      exact ⟨stats ++ mks ++ (if o.immutable then [.openRd (par ++ [base]) false] else []),
        immTail (par ++ [base]) s.next o.immutable, existed, by simp [RenameOutcome.failed]⟩
    | targetIsDir => simp [ho, RenameOutcome.failed] at hres
    | targetImmutable => simp [ho, RenameOutcome.failed] at hres

/-! ## Immutable objects -/

theorem upload_immutable_existing (P : Program) (dir : Path) (key data d : Bytes) (rnd : Name) (s : FS)
    (comps : Path) (hloc : localize key = some comps) (hobj : s.object (dir ++ comps) = some d) :
    (uploadTrace P dir key data { immutable := true } rnd s).2 =
      (if 0 < P.bufLen data.length then (if d = data then .ok else .mismatch) else .hang) ∧
    run s (uploadTrace P dir key data { immutable := true } rnd s).1 = s := by
  obtain ⟨par, base, _, hpath⟩ := localize_split dir hloc
  rw [hpath] at hobj
  have hl : s.lookup (par ++ [base]) ≠ none := fun h => by rw [object_of_lookup_none h] at hobj; cases hobj
  obtain ⟨f, hf, rfl⟩ : ∃ f, s.fileAt (par ++ [base]) = some f ∧ f.data = d := by
    simpa [object_eq_fileAt] using hobj
  rw [uploadTrace_compare P data _ rnd s hloc hpath rfl hl]
  exact ⟨by simp [compareUpload, compareTrace_snd, hf],
    run_inert _ _ fun e he => (compareUpload_mem e he).1⟩

/-! ## Confinement -/

theorem upload_rejected (P : Program) (dir : Path) (key data : Bytes) (o : Opts) (rnd : Name) (s : FS)
    (h : localize key = none) : uploadTrace P dir key data o rnd s = ([], .invalidKey) := by
  simp [uploadTrace, h]

theorem fetch_rejected (dir : Path) (key : Bytes) (s : FS) (h : localize key = none) :
    fetchTrace dir key s = ([], .invalidKey, none) := by
  simp [fetchTrace, h]

theorem discard_rejected (dir : Path) (key : Bytes) (s : FS) (h : localize key = none) :
    discardTrace dir key s = ([], .invalidKey) := by
  simp [discardTrace, h]

/-- `hdir`: were the backend directory missing, `MkdirAll` would go on to `stat` what is above it, and open and sync it
(make it, if missing too). -/
theorem upload_confined (P : Program) (dir : Path) (key data : Bytes) (o : Opts) (rnd : Name) (s : FS) (comps : Path)
    (hloc : localize key = some comps) (hdir : s.lookup dir = some .dir) :
    ∀ e ∈ (uploadTrace P dir key data o rnd s).1, ∀ x ∈ e.paths, Within dir x := by
  obtain ⟨par, base, hpar, hpath⟩ := localize_split dir hloc
  intro e he x hx
  cases uploadTrace_cases P data o rnd s hloc hpath with
  | mkdirFailed stats hmk h => rw [h] at he; exact (hmk.within hdir hpar).1 e he x hx
  | compare _ _ h => rw [h] at he; exact hpar.trans ((compareUpload_mem e he).2 x hx)
  | write stats mks hmk _ h =>
    rw [h] at he
    simp only [List.mem_append] at he
    rcases he with he | he | he
    · exact (hmk.within hdir hpar).1 e he x hx
    · exact (hmk.within hdir hpar).2 e he x hx
    · exact hpar.trans ((writeBranch_mem e he).2 x hx)

theorem fetch_confined (dir : Path) (key : Bytes) (s : FS) (comps : Path) (hloc : localize key = some comps) :
    ∀ e ∈ (fetchTrace dir key s).1, ∀ x ∈ e.paths, Within dir x := by
  unfold fetchTrace
  cases hl : s.lookup (dir ++ comps) with
  | none => simp [hloc, hl, Sys.paths, Within]
  | some nd => cases nd <;> simp [hloc, hl, Sys.paths, Within]

theorem discard_confined (dir : Path) (key : Bytes) (s : FS) (comps : Path) (hloc : localize key = some comps) :
    ∀ e ∈ (discardTrace dir key s).1, ∀ x ∈ e.paths, Within dir x := by
  unfold discardTrace
  cases hl : s.lookup (dir ++ comps) with
  | none => simp [hloc, hl, Sys.paths, Within]
  | some nd => cases nd <;> simp [hloc, hl, Sys.paths, Within]

/-! ## The invariant along an upload -/

theorem upload_inv (P : Program) (dir : Path) (key data : Bytes) (o : Opts) (rnd : Name) (s : FS) (h : Inv s) :
    SafeAlong Inv s (uploadTrace P dir key data o rnd s).1 := by
  cases hloc : localize key with
  | none => rw [upload_rejected P dir key data o rnd s hloc]; exact .nil h
  | some comps =>
    obtain ⟨par, base, _, hpath⟩ := localize_split dir hloc
    cases uploadTrace_cases P data o rnd s hloc hpath with
    | mkdirFailed stats hmk e => rw [e]; exact safeAlong_inert hmk.stats_inert h
    | compare _ _ e => rw [e]; exact safeAlong_inert (fun e he => (compareUpload_mem e he).1) h
    | write stats mks hmk _ e =>
      rw [e, ← List.append_assoc]
      -- `MkdirAll` is fine in any state: it makes no directory at the world root
      obtain ⟨ps, rfl, hps⟩ := hmk.mks_eq
      have hmks := h.safeAlong 0 (Nat.zero_le _) (stats ++ ps.flatMap mkdirTrace) fun e he =>
        (List.mem_append.1 he).elim (fun he => Sys.okAt_of_inert 0 (hmk.stats_inert e he)) fun he => by
          obtain ⟨x, hx, he⟩ := List.mem_flatMap.1 he
          obtain ⟨q, n, rfl⟩ := hps x hx
          exact (mkdirTrace_mem e he).1
      refine safeAlong_append hmks ?_
      have h1 := safeAlong_final hmks
      generalize run s (stats ++ ps.flatMap mkdirTrace) = t at h1 ⊢
      -- `WriteFile`: the inode renamed into place is the one `creat` has made before
      have hmid : ∀ e ∈ (if o.immutable then [Sys.openRd (par ++ [base]) false] else []), e.inert = true := by
        cases o.immutable <;> simp [Sys.inert]
      simp only [writeBranch, writeFileTrace_eq, writeStart, List.cons_append, List.nil_append]
      refine safeAlong_inert_append hmid (.skip rfl <| .cons h1 ?_)
      refine (h1.creat _ _).safeAlong (s.next + 1) (Nat.le_max_right _ _) _ ?_
      cases renameOutcome s (par ++ [base]) <;> cases o.immutable <;>
        simp [writeEnd, immTail, Sys.okAt, RenameOutcome.failed]

end LocalFS
