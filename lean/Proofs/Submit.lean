import Model.Submit
/-! The submission handler (C09). `admission_cases`: a request is rejected by a check of `checks` that fails on it (the first, by the definition's `find?`), or, when none fails, admitted
with the entry `entryOf` builds from the validated chain (`validateChain_eq_some`, the `entryOf_*` equations). The
handler changes the state only by storing issuers and, for an admitted entry, by entering the pool (`handle_state`),
and never touches the roots (`handle_roots`). -/
namespace Submit

theorem admission_cases (c : Config) (roots : List Bytes) (r : Req) :
    (∃ k ∈ checks, k.fails c roots r = true ∧ admission c roots r = .reject k) ∨
    ((∀ k ∈ checks, k.fails c roots r = false) ∧
      admission c roots r = .admit (entryOf r (vchain c roots r)) (vchain c roots r)) := by
  unfold admission
  cases h : checks.find? (·.fails c roots r) with
  | some k => exact Or.inl ⟨k, List.mem_of_find?_eq_some h, List.find?_some h, rfl⟩
  | none => exact Or.inr ⟨fun k hk => by simpa using List.find?_eq_none.1 h k hk, rfl⟩

theorem isAdmit_iff (c : Config) (roots : List Bytes) (r : Req) :
    (admission c roots r).isAdmit = true ↔ ∀ k ∈ checks, Check.fails c roots r k = false := by
  rcases admission_cases c roots r with ⟨k, hk, hf, h⟩ | ⟨hall, h⟩ <;> rw [h]
  · exact ⟨nofun, fun hall => absurd hf (by simp [hall k hk])⟩
  · exact ⟨fun _ => hall, fun _ => rfl⟩

theorem admit_inv {c : Config} {roots : List Bytes} {r : Req} {e : Pending} {ch : List Cert}
    (h : admission c roots r = .admit e ch) :
    (∀ k ∈ checks, Check.fails c roots r k = false) ∧ ch = vchain c roots r ∧ e = entryOf r ch := by
  rcases admission_cases c roots r with ⟨k, -, -, h'⟩ | ⟨hall, h'⟩ <;> rw [h'] at h
  · cases h
  · cases h; exact ⟨hall, rfl, rfl⟩

theorem reject_inv {c : Config} {roots : List Bytes} {r : Req} {k : Check}
    (h : admission c roots r = .reject k) : k ∈ checks ∧ k.fails c roots r = true := by
  rcases admission_cases c roots r with ⟨k', hk, hf, h'⟩ | ⟨-, h'⟩ <;> rw [h'] at h
  · cases h; exact ⟨hk, hf⟩
  · cases h

theorem verifiesToRoot_eq_some {roots : List Bytes} {r : Req} {ch : List Cert} :
    verifiesToRoot roots r = some ch ↔
      (r.parses = true ∧ r.linked = true ∧ r.anchor.der ∈ roots) ∧
        ch = if r.anchorSubmitted then r.chain else r.chain ++ [r.anchor] := by
  unfold verifiesToRoot
  split
  · rename_i h; exact ⟨fun e => ⟨h, (Option.some.inj e).symm⟩, fun e => e.2 ▸ rfl⟩
  · rename_i h; exact ⟨nofun, fun e => absurd e.1 h⟩

theorem inWindow_iff (c : Config) (na : Int) :
    inWindow c na = true ↔ c.start ≤ na ∧ na < c.limit := by
  simp [inWindow, windowGuards, Int.not_lt]

theorem validateChain_eq_some {c : Config} {roots : List Bytes} {r : Req} {ch : List Cert} :
    validateChain c roots r = some ch ↔
      verifiesToRoot roots r = some ch ∧ c.start ≤ r.notAfter ∧ r.notAfter < c.limit ∧ r.serverAuth = true := by
  unfold validateChain
  split
  · rename_i h
    obtain ⟨-, hw, hau⟩ := h
    obtain ⟨hs, hl⟩ := (inWindow_iff c r.notAfter).1 hw
    exact ⟨fun hv => ⟨hv, hs, hl, hau⟩, fun hv => hv.1⟩
  · rename_i h
    -- `ValidateChain` parses first, but a chain that verifies has parsed
    exact ⟨nofun, fun ⟨hv, hs, hl, hau⟩ =>
      absurd ⟨(verifiesToRoot_eq_some.1 hv).1.1, (inWindow_iff c r.notAfter).2 ⟨hs, hl⟩, hau⟩ h⟩

theorem vchain_of_validate {c : Config} {roots : List Bytes} {r : Req} {ch : List Cert}
    (h : validateChain c roots r = some ch) : vchain c roots r = ch := by
  unfold vchain; rw [h]; rfl

theorem entryOf_issuers (r : Req) (ch : List Cert) : (entryOf r ch).issuers = ch.tail.map (·.der) := by
  unfold entryOf; split <;> rfl

theorem entryOf_final {r : Req} (h : isPrecert r = false) (leaf : Cert) (rest : List Cert) :
    entryOf r (leaf :: rest) = ⟨leaf.der, false, zeros32, rest.map (·.der), []⟩ := by
  simp [entryOf, h]

theorem entryOf_precert {r : Req} (h : isPrecert r = true) {i : Cert} (hi : i.ctEku = false)
    (leaf : Cert) (rest : List Cert) :
    entryOf r (leaf :: i :: rest) =
      ⟨r.tbsPlain, true, i.spkiHash, (i :: rest).map (·.der), leaf.der⟩ := by
  simp [entryOf, h, usesPreIssuer, hi, ikhIndex, spkiAt]

theorem entryOf_precert_reissued {r : Req} (h : isPrecert r = true) {i : Cert} (hi : i.ctEku = true)
    (leaf j : Cert) (rest : List Cert) :
    entryOf r (leaf :: i :: j :: rest) =
      ⟨r.tbsReissued, true, j.spkiHash, (i :: j :: rest).map (·.der), leaf.der⟩ := by
  simp [entryOf, h, usesPreIssuer, hi, ikhIndex, spkiAt]

def addIssuer (acc : List Bytes) (i : Bytes) : List Bytes := if i ∈ acc then acc else acc ++ [i]

theorem mem_addIssuer {acc : List Bytes} {i x : Bytes} : x ∈ addIssuer acc i ↔ x ∈ acc ∨ x = i := by
  unfold addIssuer
  split
  · exact ⟨Or.inl, fun h => h.elim id (· ▸ ‹i ∈ acc›)⟩
  · simp

theorem uploadIssuers_issuers (s : State) (e : Pending) :
    (uploadIssuers s e).issuers = e.issuers.foldl addIssuer s.issuers := rfl

theorem mem_uploadIssuers (s : State) (e : Pending) (x : Bytes) :
    x ∈ (uploadIssuers s e).issuers ↔ x ∈ s.issuers ∨ x ∈ e.issuers := by
  rw [uploadIssuers_issuers]
  generalize s.issuers = acc
  induction e.issuers generalizing acc with
  | nil => simp
  | cons i rest ih => rw [List.foldl_cons, ih, mem_addIssuer, List.mem_cons, or_assoc]

theorem uploadIssuers_has (s : State) (e : Pending) : ∀ x ∈ e.issuers, x ∈ (uploadIssuers s e).issuers :=
  fun x h => (mem_uploadIssuers s e x).2 (Or.inr h)

theorem uploadIssuers_pool (s : State) (e : Pending) : (uploadIssuers s e).pool = s.pool := rfl
theorem uploadIssuers_roots (s : State) (e : Pending) : (uploadIssuers s e).roots = s.roots := rfl

theorem enterPool_issuers (s : State) (e : Pending) : (enterPool s e).issuers = s.issuers := by
  unfold enterPool; split <;> rfl
theorem enterPool_roots (s : State) (e : Pending) : (enterPool s e).roots = s.roots := by
  unfold enterPool; split <;> rfl
theorem enterPool_mem (s : State) (e x : Pending) (h : x ∈ (enterPool s e).pool) : x ∈ s.pool ∨ x = e := by
  unfold enterPool at h
  split at h
  · exact Or.inl h
  · simp only [List.mem_append, List.mem_singleton] at h; exact h

theorem mem_dedup (l : List Bytes) (x : Bytes) : x ∈ dedup l ↔ x ∈ l := by
  induction l with
  | nil => simp [dedup]
  | cons y ys ih =>
    unfold dedup
    split
    · -- `y` is dropped here because it occurs again further on
      rename_i hy
      rw [ih, List.mem_cons]
      exact ⟨Or.inr, fun h => h.elim (fun e => ih.1 (e ▸ hy)) id⟩
    · simp only [List.mem_cons, ih]

theorem nodup_dedup (l : List Bytes) : (dedup l).Nodup := by
  induction l with
  | nil => simp [dedup]
  | cons y ys ih =>
    unfold dedup
    split
    · exact ih
    · rename_i hy
      exact List.nodup_cons.2 ⟨hy, ih⟩

theorem mem_poolOrder (l : List Bytes) (x : Bytes) : x ∈ poolOrder l ↔ x ∈ l := by
  unfold poolOrder; simp [mem_dedup]

theorem nodup_poolOrder (l : List Bytes) : (poolOrder l).Nodup := by
  unfold poolOrder
  have h := nodup_dedup l.reverse
  unfold List.Nodup at *
  rw [List.pairwise_reverse]
  exact h.imp (fun hab => fun hba => hab hba.symm)

theorem Check.status_client (k : Check) : 400 ≤ k.status ∧ k.status < 500 := by
  cases k <;> decide

theorem handle_reject {c : Config} {s : State} {r : Req} {k : Check} (hm : r.method = .post)
    (h : admission c s.roots r = .reject k) (w : Wait) :
    handle c s r w = (s, ⟨k.status, some (.reject k)⟩) := by
  unfold handle; rw [hm]; simp only [h]

theorem handle_admit {c : Config} {s : State} {r : Req} {e : Pending} {ch : List Cert}
    (hm : r.method = .post) (h : admission c s.roots r = .admit e ch) (w : Wait) :
    handle c s r w =
      (if w = .poolFull then uploadIssuers s e else enterPool (uploadIssuers s e) e,
        ⟨waitStatus w, some (.admit e ch)⟩) := by
  unfold handle; rw [hm]; simp only [h]; cases w <;> rfl

theorem handle_not_post {r : Req} (hm : r.method ≠ .post) (c : Config) (s : State) (w : Wait) :
    handle c s r w = (s, ⟨204, none⟩) ∨ handle c s r w = (s, ⟨405, none⟩) := by
  unfold handle
  cases h : r.method with
  | post => exact absurd h hm
  | options => exact Or.inl rfl
  | other => exact Or.inr rfl

theorem handle_state (c : Config) (s : State) (r : Req) (w : Wait) :
    (handle c s r w).1 = s ∨ ∃ e, (handle c s r w).1 = uploadIssuers s e ∨
      (handle c s r w).1 = enterPool (uploadIssuers s e) e := by
  by_cases hm : r.method = .post
  · cases h : admission c s.roots r with
    | reject k => rw [handle_reject hm h]; exact Or.inl rfl
    | admit e ch => rw [handle_admit hm h]; exact Or.inr ⟨e, by split <;> simp⟩
  · rcases handle_not_post hm c s w with h | h <;> rw [h] <;> exact Or.inl rfl

theorem handleIssuerFault_state (c : Config) (s : State) (r : Req) :
    (handleIssuerFault c s r).1 = (handle c s r).1 ∨ (handleIssuerFault c s r).1 = s := by
  unfold handleIssuerFault
  split
  · split
    · exact Or.inl rfl
    · split
      · exact Or.inl rfl
      · exact Or.inr rfl
  · exact Or.inl rfl

theorem handle_roots (c : Config) (s : State) (r : Req) (w : Wait) : (handle c s r w).1.roots = s.roots := by
  rcases handle_state c s r w with h | ⟨e, h | h⟩ <;> rw [h]
  · exact uploadIssuers_roots s e
  · exact (enterPool_roots _ e).trans (uploadIssuers_roots s e)

end Submit
