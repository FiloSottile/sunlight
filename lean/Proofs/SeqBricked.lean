import Proofs.SeqRecoverDemo
/-! Bricked states of the sequencer model: the checkpoint object is behind the lock checkpoint, the
lock tree's staging bundle is gone, and nobody is running. Every accepted non-tamper step keeps such
a state bricked: no instance ever loads again, whatever is tried (any instance, any fault
outcomes, any interleaving). The counterexample state of `Seq.Cex` (publication regression followed
by a discard) is bricked. -/
namespace Seq

/-- phases from which, in a bricked state, an instance can only fail -/
def InertPhase (c c1 : Ck) : Phase → Prop
  | .down => True
  | .creating pc => (match pc with
      | .ckptUpload _ => False
      | .rootsUpload => False
      | _ => True)
  | .loading pc => (match pc with
      | .lockFetch => True
      | .failing => True
      | .clock1 c' => c' = c
      | .ckptFetch c' => c' = c
      | .legacy c' => c' = c
      | .stagingFetch c' => c' = c
      | .clock2 c' c1' => c' = c ∧ c1' = c1
      | .apply _ _ _ => False
      | .edge _ _ => False)
  | _ => False

structure Bricked (c c1 : Ck) (s : Sys) : Prop where
  lock : s.lock = some c
  ckpt : ∃ imm, s.store .ckpt = some (.ck c1, imm)
  behind : c1.leaves.length < c.leaves.length
  gone : s.store (.staging c.leaves) = none
  inert : ∀ i, InertPhase c c1 (s.insts i).phase

theorem inert_not_up {c c1 : Ck} {x : Inst} (h : InertPhase c c1 x.phase) : isUp x = false := by
  cases hph : x.phase <;> simp_all [InertPhase, isUp]

attribute [local simp] setPhase Sys.setInst Sys.pushLock Sys.stored upd in
/-- a creation stops at the existing lock, a load at the missing bundle, and nobody is up to do anything else -/
theorem Step.brick {s s' : Sys} {e : Ev} {i : Nat} {c c1 : Ck} (hS : Step s e s') (he : e.inst = some i)
    (hb : Bricked c c1 s) : s'.lock = s.lock ∧ s'.store = s.store ∧ InertPhase c c1 (s'.insts i).phase := by
  have hl := hb.lock
  obtain ⟨imm0, hck⟩ := hb.ckpt
  have hbe := hb.behind
  have hg := hb.gone
  have hi := hb.inert i
  cases hS with
  | uploadIssuer hup | uploadIssuerFail hup => cases he; rw [inert_not_up hi] at hup; cases hup
  | _ => cases he <;> simp_all [InertPhase, isUp]

theorem bricked_step (s s' : Sys) {cL cK : Ck} (e : Ev) (hb : Bricked cL cK s) (h : step s e = some s')
    (ht : s'.tampered = false) : Bricked cL cK s' := by
  have hS := step_sound h
  cases he : e.inst with
  | none =>
    obtain ⟨k, o, rfl⟩ := inst_none_tamper e he
    exact absurd rfl ((hS.tampered ht).2 k o)
  | some i =>
    obtain ⟨hl, hst, hph⟩ := hS.brick he hb
    refine ⟨hl.trans hb.lock, by rw [hst]; exact hb.ckpt, hb.behind, by rw [hst]; exact hb.gone, fun j => ?_⟩
    by_cases hj : j = i
    · subst hj; exact hph
    · rw [hS.others (by simp [he, Ne.symm hj])]
      exact hb.inert j

theorem bricked_run {s s' : Sys} {cL cK : Ck} {es : List Ev} (hb : Bricked cL cK s) (h : run s es = some s')
    (ht : s'.tampered = false) : Bricked cL cK s' := by
  induction es generalizing s with
  | nil => cases h; exact hb
  | cons e es ih =>
    obtain ⟨s1, hs1, h⟩ := run_cons.1 h
    exact ih (bricked_step s s1 e hb hs1 (run_tampered s1 s' es h ht)) h

theorem bricked_not_up {s : Sys} {cL cK : Ck} (hb : Bricked cL cK s) (i : Nat) :
    isUp (s.insts i) = false ∧ ∀ c, step s (.loaded i c) = none := by
  have hi := hb.inert i
  refine ⟨inert_not_up hi, fun c => ?_⟩
  cases hph : (s.insts i).phase with
  | loading pc => cases pc <;> simp_all [InertPhase, step]
  | _ => simp_all [InertPhase, step]

theorem bricked_forever {s s' : Sys} {cL cK : Ck} {es : List Ev} (hb : Bricked cL cK s) (h : run s es = some s')
    (ht : s'.tampered = false) :
    Bricked cL cK s' ∧ (∀ i, isUp (s'.insts i) = false) ∧ ∀ i c, Ev.loaded i c ∉ es := by
  refine ⟨bricked_run hb h ht, fun i => (bricked_not_up (bricked_run hb h ht) i).1, ?_⟩
  induction es generalizing s with
  | nil => intro i c hm; cases hm
  | cons e es ih =>
    obtain ⟨s1, hs1, h⟩ := run_cons.1 h
    intro i c hm
    rcases List.mem_cons.1 hm with rfl | hm'
    · rw [(bricked_not_up hb i).2 c] at hs1; cases hs1
    · exact ih (bricked_step s s1 e hb hs1 (run_tampered s1 s' es h ht)) h i c hm'

theorem bricked_of_all_down {s : Sys} {cL cK : Ck} {imm : Bool} (hl : s.lock = some cL)
    (hck : s.store .ckpt = some (.ck cK, imm)) (hbe : cK.leaves.length < cL.leaves.length)
    (hg : s.store (.staging cL.leaves) = none) (hd : ∀ j, (s.insts j).phase = .down) : Bricked cL cK s :=
  ⟨hl, ⟨imm, hck⟩, hbe, hg, fun j => by rw [hd j]; trivial⟩

theorem Cex.cex_bricked {s : Sys} (h : run (init 0) Cex.cex = some s) : Bricked RecDemo.c2 RecDemo.c1 s := by
  have hd := Cex.cex_all_down h
  obtain ⟨s0, h0, _, hl, _, _, hck, hstg, _⟩ := Cex.cex_runs
  rw [h0] at h; injection h with h; subst h
  exact bricked_of_all_down hl hck (by decide) hstg (fun j => (hd j).1)

end Seq
