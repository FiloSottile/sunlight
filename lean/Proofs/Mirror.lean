import Proofs.MirrorSteps
/-! Every step of the mirror transition system keeps the invariant and leaves the mirror checkpoint and
its history alone or appends one tree head (`step_inv`).

The invariant is carried through elementary updates of the state (`MInv.setWCache`, `MInv.setMcache`,
`conflict_ctl`, `setReq_ctl`, `MInv.advance`, `MInv.record`, `MInv.publish`, `MInv.release`, `MInv.extend`, and
`StoreStep` for the tile store); the functions of the model are compositions of these, taken apart with
`fun_cases`: where a function matches on the result of a sub-function, the equation left in the context is
the first hypothesis of the lemma about that sub-function (for `uploadTiles_store`, of the wrapper `hup`): the `‹_›` of
the proofs. -/
namespace Mirror
open Merkle Witness Checkpoint

variable (node : Hash → Hash → Hash) (emptyHash : Hash) (leaf : Entry → Hash)

/-- what the lock reads, `mirrorConflict` and the updates of the request table do -/
structure CtlStep (c : MCfg) (a b : MState) : Prop where
  inv : MInv node emptyHash leaf c b
  frame : Frame a b

def Known (c : MCfg) (hist : List (Nat × Hash)) (p : PCk) : Prop :=
  p.ck ∈ hist ∧ ∀ k, payloadCk c.origin p.payload = some k → k ∈ hist

structure StepOK (c : MCfg) (a b : MState) : Prop where
  inv : MInv node emptyHash leaf c b
  grow : MGrow a b

structure PendingRead (c : MCfg) (st s : MState) (o : Option PCk) : Prop where
  step : CtlStep node emptyHash leaf c st s
  next : s.next = st.next
  issued : s.issued = st.issued
  known : ∀ p, o = some p → Known c st.w.hist p

structure MirrorRead (c : MCfg) (st s : MState) (o : Option (PCk × Nat)) : Prop where
  step : CtlStep node emptyHash leaf c st s
  w : s.w = st.w
  issued : s.issued = st.issued
  got : ∀ p x, o = some (p, x) → p = mirrorP emptyHash st.mlock ∧ s.next = some x

variable {node emptyHash leaf} {c : MCfg}

theorem CtlStep.refl {a : MState} (hi : MInv node emptyHash leaf c a) : CtlStep node emptyHash leaf c a a :=
  ⟨hi, Frame.refl a⟩

theorem CtlStep.trans {a b d : MState} (h1 : CtlStep node emptyHash leaf c a b)
    (h2 : CtlStep node emptyHash leaf c b d) : CtlStep node emptyHash leaf c a d :=
  ⟨h2.inv, h1.frame.trans h2.frame⟩

theorem StepOK.refl {a : MState} (hi : MInv node emptyHash leaf c a) : StepOK node emptyHash leaf c a a :=
  ⟨hi, Or.inl (.rfl' a)⟩

theorem StepOK.after {a b d : MState} (h1 : MSame a b) (h2 : StepOK node emptyHash leaf c b d) :
    StepOK node emptyHash leaf c a d :=
  ⟨h2.inv, .of_same_left h1 h2.grow⟩

theorem CtlStep.stepOK {a b : MState} (h : CtlStep node emptyHash leaf c a b) : StepOK node emptyHash leaf c a b :=
  ⟨h.inv, Or.inl h.frame.msame⟩

theorem StoreStep.stepOK {a b : MState} (h : StoreStep node emptyHash leaf a b) (hi : MInv node emptyHash leaf c a) :
    StepOK node emptyHash leaf c a b :=
  ⟨h.minv hi, Or.inl h.ctl.msame⟩

theorem TicketAdm.frame {a b : MState} (h : Frame a b) (hs : b.issued = a.issued) {t : TicketIn}
    (hadm : TicketAdm c a t) : TicketAdm c b t := by
  cases t with
  | box t => simp only [TicketAdm] at hadm ⊢; rw [h.key, hs, h.hist]; exact hadm
  | _ => trivial

theorem truth_back {hist hist' : List (Nat × Hash)} (hc' : hist'.Pairwise (Consistent node emptyHash)) (hne : hist ≠ [])
    (hext : hist' = hist ∨ ∃ x, hist' = hist ++ [x]) {E' : List Entry} (ht : TruthH node emptyHash leaf hist' E') :
    ∃ N, TruthH node emptyHash leaf hist (E'.take N) ∧ N ≤ E'.length ∧ ∀ k ∈ hist, k.1 ≤ N := by
  rcases hext with rfl | ⟨x, rfl⟩
  · exact ⟨E'.length, by rw [List.take_length]; exact ht, Nat.le_refl _,
      fun k hk => (truth_mem node emptyHash leaf hc' ht hk).1⟩
  · obtain ⟨kl, hkl⟩ : ∃ kl, hist.getLast? = some kl := by
      cases h : hist.getLast? with
      | none => exact absurd (List.getLast?_eq_none_iff.1 h) hne
      | some kl => exact ⟨kl, rfl⟩
    obtain ⟨h1, h2⟩ := truth_mem node emptyHash leaf hc' ht (List.mem_append_left _ (List.mem_of_getLast? hkl))
    refine ⟨kl.1, ⟨kl, hkl, ?_, ?_⟩, h1, fun k hk => mem_le_last (List.pairwise_append.1 hc').1 hk hkl⟩
    · show ((E'.take kl.1).map leaf).length = kl.1
      rw [List.length_map, List.length_take]; omega
    · show mth node emptyHash ((E'.take kl.1).map leaf) = kl.2
      rw [List.map_take]; exact h2.symm

/-- The witness side moves to `w'`. The clauses quantified over the logs of the chain survive because a log of
the new chain, cut back to the last tree head of the old one, is a log of the old chain (`truth_back`). -/
theorem MInv.extend {st : MState} (hi : MInv node emptyHash leaf c st) {w' : OState}
    (hwi' : Witness.Inv node emptyHash c.origin w')
    (hext : w'.hist = st.w.hist ∨ ∃ x, w'.hist = st.w.hist ++ [x])
    (hcache : ∀ v, w'.cache 0 = some v → st.w.cache 0 = some v ∨ v = st.w.lock ∨ v = w'.lock) (lg : List MEffect) :
    MInv node emptyHash leaf c { st with w := w', log := lg } := by
  obtain ⟨hc, hs⟩ := hi
  have hsub : ∀ k ∈ st.w.hist, k ∈ w'.hist := by
    intro k hk
    rcases hext with h | ⟨x, h⟩ <;> rw [h]
    · exact hk
    · exact List.mem_append_left _ hk
  have hback := fun E' ht => truth_back (leaf := leaf) (hist := st.w.hist) hwi'.chain hc.hne hext (E' := E') ht
  refine ⟨{ hc with wi := hwi', hne := ?_, cache := fun v k hv hk => ?_, mh := fun k hk => hsub k (hc.mh k hk),
                    nx := fun x hx => ?_, rq := fun rid r hr => ?_, tk := fun t ht k hk => hsub k (hc.tk t ht k hk) },
    { hs with data := fun E' ht n w es he => ?_, hash := fun E' ht l n w x hx => ?_ }⟩
  · obtain ⟨k, hk⟩ := List.exists_mem_of_ne_nil _ hc.hne
    exact List.ne_nil_of_mem (hsub k hk)
  · rcases hcache v hv with h | rfl | rfl
    · exact hsub k (hc.cache v k h hk)
    · exact hsub k (List.mem_of_getLast? (hc.wi.last k hk))
    · exact List.mem_of_getLast? (hwi'.last k hk)
  · obtain ⟨a, k, hk, hk'⟩ := hc.nx x hx
    exact ⟨a, k, hsub k hk, hk'⟩
  · have h := hc.rq rid r hr
    refine { h with ck := hsub _ h.ck, pay := fun k hk => hsub k (h.pay k hk), ov := fun E' ht => ?_ }
    obtain ⟨N, tN, _, hN⟩ := hback E' ht
    have := h.ov _ tN
    rwa [List.map_take, rng_take_of_le _ (by have := hN _ h.ck; have := h.ovlen; have := h.stop; omega)] at this
  · obtain ⟨N, tN, hNl, _⟩ := hback E' ht
    obtain ⟨a, b⟩ := hs.data _ tN n w es he
    rw [List.length_take] at b
    rw [bundleOf_take E' (by omega)] at a
    exact ⟨a, by omega⟩
  · obtain ⟨N, tN, hNl, _⟩ := hback E' ht
    obtain ⟨a, b⟩ := hs.hash _ tN l n w x hx
    rw [List.length_map, List.length_take] at b
    rw [List.map_take, tileOf_take (E'.map leaf) (by omega)] at a
    exact ⟨a, by rw [List.length_map]; omega⟩

/-! ### control steps: the two cached lock reads, `mirrorConflict`, the request table -/

theorem payloadOf_ck (o : Bytes) (v : LockVal) :
    payloadOf v = .empty ∨ payloadCk o (payloadOf v) = ckOf emptyHash o v := by
  cases v with
  | none => left; rfl
  | some p => right; rfl

theorem MInv.setWCache {st : MState} (hi : MInv node emptyHash leaf c st) (cache' : Nat → Option LockVal)
    (hc' : ∀ v, cache' 0 = some v → st.w.cache 0 = some v ∨ v = st.w.lock) (wl : List Effect) (lg : List MEffect) :
    MInv node emptyHash leaf c { st with w := { st.w with cache := cache', log := wl }, log := lg } :=
  have hw := hi.ctl.wi
  hi.extend (w' := { st.w with cache := cache', log := wl }) ⟨hw.chain, hw.last, hw.zero, hw.rel, hw.pub⟩ (.inl rfl)
    (fun v hv => (hc' v hv).imp_right .inl) lg

theorem fetchPending_ctl {f : Bool} {st s : MState} {o : Option PCk}
    (h : fetchPending emptyHash c f st = (s, o)) (hi : MInv node emptyHash leaf c st) :
    PendingRead node emptyHash leaf c st s o := by
  have hc := hi.ctl
  have hres : ∀ v, (∀ k, ckOf emptyHash c.origin v = some k → k ∈ st.w.hist) →
      ∀ p, ((openStored emptyHash c.cfg c.origin v).map fun k => (⟨k, payloadOf v⟩ : PCk)) = some p →
      Known c st.w.hist p := by
    intro v hv p hp
    obtain ⟨k, ho, rfl⟩ := Option.map_eq_some_iff.1 hp
    refine ⟨hv k (openStored_ckOf ho), fun k' hk' => ?_⟩
    rcases payloadOf_ck (emptyHash := emptyHash) c.origin v with e | e <;> rw [e] at hk'
    · cases hk'
    · exact hv k' hk'
  unfold fetchPending at h
  split at h
  · rename_i v hv
    cases h
    exact ⟨.refl hi, rfl, rfl, hres v fun k => hc.cache v k hv⟩
  · split at h <;> cases h
    · refine ⟨⟨hi.setWCache _ (fun v hv => Or.inr ?_) _ _, .update rfl⟩, rfl, rfl,
        hres st.w.lock fun k hk => List.mem_of_getLast? (hc.wi.last k hk)⟩
      simp only [if_true, Option.some.injEq] at hv
      exact hv.symm
    · exact ⟨⟨hi.setWCache _ (fun v hv => Or.inl hv) _ _, .update rfl⟩, rfl, rfl, nofun⟩

theorem fetchPending_miss {st : MState} (h : st.w.cache 0 = none) :
    fetchPending emptyHash c true st =
      ({ st with log := st.log ++ [.pfetch],
                 w := ({ st.w with log := st.w.log ++ [.lockFetch 0 .ok] } : OState).setCache 0 (some st.w.lock) },
       (openStored emptyHash c.cfg c.origin st.w.lock).map fun k => ⟨k, payloadOf st.w.lock⟩) := by
  unfold fetchPending
  rw [h]
  rfl

theorem mirrorP_ck (v : MVal) : (mirrorP emptyHash v).ck = mirrorCk emptyHash v := by
  cases v <;> rfl

/-- `sr`, `lg`: no clause of the invariant looks at the signing serial or the operation log -/
theorem MInv.setMcache {st : MState} (hi : MInv node emptyHash leaf c st) (mc : Option MVal)
    (hmc : ∀ v, mc = some v → v = st.mlock) (nx : Option Nat)
    (hnx : nx = st.next ∨ (st.next = none ∧ nx = some (mirrorP emptyHash st.mlock).ck.1)) (sr : Nat) (lg : List MEffect) :
    MInv node emptyHash leaf c { st with mcache := mc, next := nx, serial := sr, log := lg } := by
  have hc := hi.ctl
  rcases hnx with rfl | ⟨hn, rfl⟩
  · exact ⟨{ hc with mc := hmc, rq := hc.rq_congr rfl rfl rfl }, { hi.store with }⟩
  · rw [mirrorP_ck]
    refine ⟨{ hc with mc := hmc, nx := ?_, rq := ?_ }, { hi.store with comp := fun M hM hle => hi.store.comp M hM ?_ }⟩
    · intro x hx
      cases hx
      refine ⟨Nat.le_refl _, ?_⟩
      by_cases hm : st.mlock = none
      · obtain ⟨k, hk⟩ := List.exists_mem_of_ne_nil _ hc.hne
        exact ⟨k, hk, by rw [hm]; exact Nat.zero_le _⟩
      · exact ⟨_, hc.mh _ (hc.mirrorCk_mem hm), Nat.le_refl _⟩
    -- no request is in flight while `nextEntry` is unset (`ReqInv.nx`)
    · intro rid r h
      obtain ⟨x, hx, _⟩ := (hc.rq rid r h).nx
      rw [hn] at hx; cases hx
    · exact Nat.le_trans hle (Nat.max_le.2 ⟨Nat.le_max_right _ _, Nat.le_max_right _ _⟩)

theorem fetchMirror_ctl {f : Bool} {st s : MState} {o : Option (PCk × Nat)}
    (h : fetchMirror emptyHash f st = (s, o)) (hi : MInv node emptyHash leaf c st) :
    MirrorRead node emptyHash leaf c st s o := by
  have hmc := hi.ctl.mc
  have hnew : ∀ v : MVal, some st.mlock = some v → v = st.mlock := fun v e => (Option.some.inj e).symm
  have key : ∀ mc nx lg, (∀ v, mc = some v → v = st.mlock) →
      (nx = st.next ∨ (st.next = none ∧ nx = some (mirrorP emptyHash st.mlock).ck.1)) →
      CtlStep node emptyHash leaf c st { st with mcache := mc, next := nx, log := lg } :=
    fun mc nx lg h1 h2 => ⟨hi.setMcache mc h1 nx h2 st.serial lg, .update rfl⟩
  unfold fetchMirror at h
  dsimp only at h
  split at h
  · rename_i v hv
    cases hmc v hv
    split at h <;> cases h
    · exact ⟨.refl hi, rfl, rfl, fun p x e => by cases e; exact ⟨rfl, ‹_›⟩⟩
    · exact ⟨key _ _ _ hmc (Or.inr ⟨‹_›, rfl⟩), rfl, rfl, fun p x e => by cases e; exact ⟨rfl, rfl⟩⟩
  · split at h
    · split at h <;> cases h
      · exact ⟨key _ _ _ hnew (Or.inl rfl), rfl, rfl, fun p x e => by cases e; exact ⟨rfl, ‹_›⟩⟩
      · exact ⟨key _ _ _ hnew (Or.inr ⟨‹_›, rfl⟩), rfl, rfl, fun p x e => by cases e; exact ⟨rfl, rfl⟩⟩
    · cases h
      exact ⟨key _ _ _ hmc (Or.inl rfl), rfl, rfl, nofun⟩

theorem fetchMirror_miss {st : MState} (h : st.mcache = none) (hn : st.next = none) :
    fetchMirror emptyHash true st =
      ({ st with log := st.log ++ [.mfetch], mcache := some st.mlock, next := some (mirrorP emptyHash st.mlock).ck.1 },
       some (mirrorP emptyHash st.mlock, (mirrorP emptyHash st.mlock).ck.1)) := by
  unfold fetchMirror
  rw [h]
  simp only [if_true, hn]

theorem conflict_ctl (status : Nat) (p : PCk) (next : Nat) {st : MState}
    (hi : MInv node emptyHash leaf c st) (hp : ∀ k, payloadCk c.origin p.payload = some k → k ∈ st.w.hist) :
    CtlStep node emptyHash leaf c st (conflict c status p next st).1 := by
  exact ⟨⟨{ hi.ctl with rq := hi.ctl.rq_congr rfl rfl rfl
                        tk := forall_mem_concat hi.ctl.tk hp }, { hi.store with }⟩, .update rfl⟩

theorem setReq_ctl {st : MState} (hi : MInv node emptyHash leaf c st) (rid : Nat) (o : Option Req)
    (ho : ∀ r, o = some r → ReqInv node emptyHash leaf c st r) :
    CtlStep node emptyHash leaf c st (st.setReq rid o) := by
  refine ⟨⟨{ hi.ctl with rq := fun j r h => ?_ }, { hi.store with }⟩, .update rfl⟩
  simp only [MState.setReq] at h
  split at h
  · exact (ho r h).congr rfl rfl
  · exact (hi.ctl.rq j r h).congr rfl rfl

/-! ### the metadata step -/

theorem verifyTicket_sound {st : MState} (hi : MInv node emptyHash leaf c st) {t : TicketIn}
    (hadm : TicketAdm c st t) {p : PCk} (h : verifyTicket c st.key t = some p) :
    Known c st.w.hist p ∧
    ∃ tk, t = .box tk ∧ tk.key = st.key ∧ tk.mirrorName = c.mirrorName ∧ tk.origin = c.origin := by
  revert h
  fun_cases verifyTicket c st.key t
  all_goals intro h
  · rename_i tk hcond note serial hpl vs hopen
    obtain ⟨k, hk, rfl⟩ := Option.map_eq_some_iff.1 h
    have hmem : k ∈ st.w.hist := by
      rcases hadm with ha | ha
      · exact hi.ctl.tk tk (ha hcond.1) k (by rw [hpl]; exact hk)
      · exact ha note serial hpl ⟨vs, hopen⟩ k hk
    refine ⟨⟨hmem, fun k' hk' => ?_⟩, tk, rfl, hcond⟩
    rw [show payloadCk c.origin tk.payload = some k by rw [hpl]; exact hk] at hk'
    cases hk'; exact hmem
  all_goals cases h

theorem resolve_sound {st : MState} (hi : MInv node emptyHash leaf c st) {q : MetaReq}
    (hadm : TicketAdm c st q.ticket) {pend : PCk} (hp : Known c st.w.hist pend) {r : PCk}
    (h : resolve c st.key pend (mirrorP emptyHash st.mlock) q = some r) :
    Known c st.w.hist r ∧ q.stop = r.ck.1 := by
  revert h
  fun_cases resolve c st.key pend (mirrorP emptyHash st.mlock) q
  all_goals intro h
  · cases h; exact ⟨hp, ‹_›⟩
  · rename_i h2
    cases h
    cases hml : st.mlock with
    | none => rw [hml] at h2; exact absurd rfl h2.1
    | some v =>
      have hmem : v.1 ∈ st.w.hist := by
        have := hi.ctl.mh _ (hi.ctl.mirrorCk_mem (by rw [hml]; nofun))
        rwa [hml] at this
      rw [hml] at h2
      exact ⟨⟨hmem, fun k hk => by cases hk; exact hmem⟩, h2.2⟩
  · rename_i t ht h3
    cases h
    exact ⟨(verifyTicket_sound hi hadm ht).1, h3⟩
  all_goals cases h

theorem metaDecide_ctl (rid : Nat) {q : MetaReq} {pend : PCk} {next : Nat} {st2 : MState}
    (hi : MInv node emptyHash leaf c st2) (hadm : TicketAdm c st2 q.ticket) (hle : ¬ q.stop < q.start)
    (hp : Known c st2.w.hist pend) (hn : st2.next = some next) :
    CtlStep node emptyHash leaf c st2 (metaDecide c rid q pend (mirrorP emptyHash st2.mlock) next st2).1 := by
  fun_cases metaDecide c rid q pend (mirrorP emptyHash st2.mlock) next st2
  · exact .refl hi
  · exact .refl hi
  · exact .refl hi
  · exact conflict_ctl _ pend next hi hp.2
  · exact conflict_ctl _ pend next hi hp.2
  · rename_i r hr _ _
    exact conflict_ctl _ r next hi (resolve_sound hi hadm hp hr).1.2
  · exact conflict_ctl _ pend next hi hp.2
  · rename_i r hr hwin
    obtain ⟨⟨rc, rp⟩, rs'⟩ := resolve_sound hi hadm hp hr
    refine setReq_ctl hi rid _ fun r' e => ?_
    cases e
    refine ⟨rc, rs', by dsimp only; omega, rp, Nat.zero_le _, ⟨next, hn, fun _ => ?_⟩, ?_, fun E _ => ?_⟩
    · simp only [Req.rs]; omega
    · simp only [Req.rs, List.length_nil]; omega
    · show ([] : List Hash) = _
      simp only [List.length_nil, Nat.add_zero, rng, Nat.sub_self, List.take_zero]

theorem metaMirror_ctl (rid : Nat) {q : MetaReq} (fm : Bool) {pend : PCk} {st1 : MState}
    (hi : MInv node emptyHash leaf c st1) (hadm : TicketAdm c st1 q.ticket) (hle : ¬ q.stop < q.start)
    (hp : Known c st1.w.hist pend) :
    CtlStep node emptyHash leaf c st1 (metaMirror emptyHash c rid q fm pend st1).1 := by
  fun_cases metaMirror emptyHash c rid q fm pend st1
  · exact .refl hi
  · exact (fetchMirror_ctl ‹_› hi).step
  · rename_i st2 mir next h
    have f2 := fetchMirror_ctl h hi
    obtain ⟨rfl, pn⟩ := f2.got mir next rfl
    rw [← f2.step.frame.mlock]
    exact f2.step.trans (metaDecide_ctl rid f2.step.inv (hadm.frame f2.step.frame f2.issued) hle (f2.w ▸ hp) pn)

theorem metadata_ctl (rid : Nat) (q : MetaReq) (fp fm : Bool) {st : MState}
    (hi : MInv node emptyHash leaf c st) (hadm : TicketAdm c st q.ticket) :
    CtlStep node emptyHash leaf c st (metadata emptyHash c rid q fp fm st).1 := by
  fun_cases metadata emptyHash c rid q fp fm st
  · exact .refl hi
  · exact .refl hi
  · exact .refl hi
  · exact .refl hi
  · exact .refl hi
  · exact (fetchPending_ctl ‹_› hi).step
  · rename_i hle _ _ _ st1 pend h
    have f1 := fetchPending_ctl h hi
    exact f1.step.trans
      (metaMirror_ctl rid fm f1.step.inv (hadm.frame f1.step.frame f1.issued) hle (f1.step.frame.hist ▸ f1.known pend rfl))

theorem metadata_fresh {st : MState} (hk : c.known = true) (hm : c.mirrored = true)
    (hw : st.w.cache 0 = none) (hmc : st.mcache = none) (hn : st.next = none) {rid : Nat} (hrid : st.reqs rid = none)
    {note : Note} {serial : Nat} (hl : st.w.lock = some (note, serial)) {k : Nat × Hash}
    (hopen : openStored emptyHash c.cfg c.origin st.w.lock = some k) (hmk : (mirrorCk emptyHash st.mlock).1 ≤ k.1) :
    ∃ S : MState,
      metadata emptyHash c rid { hdr := .ok, start := (mirrorCk emptyHash st.mlock).1, stop := k.1, ticket := .none }
          true true st =
        (S.setReq rid (some { ck := k, payload := .pend note serial, start := (mirrorCk emptyHash st.mlock).1,
                              stop := k.1, i := 0, ov := [] }), .cont) ∧
      S.next = some (mirrorCk emptyHash st.mlock).1 ∧ S.data = st.data := by
  have hp := fetchPending_miss (emptyHash := emptyHash) (c := c) hw
  rw [hopen, hl] at hp
  unfold metadata
  simp only [hdrErr]
  rw [if_neg (by omega), hrid]
  simp only [Option.isSome_none, Bool.false_eq_true, if_false, hk, hm, Bool.not_true]
  rw [hp]
  simp only [Option.map_some, payloadOf, metaMirror, reduceCtorEq, if_false]
  rw [fetchMirror_miss ?_ ?_]
  · simp only [metaDecide, resolve, if_true, mirrorP_ck]
    rw [if_neg (by omega), if_neg (by omega), if_neg (by omega), if_neg (by omega)]
    rw [if_neg (by simp only [window, windowTiles, tileWidth]; omega)]
    exact ⟨_, rfl, rfl, rfl⟩
  · exact hmc
  · exact hn

/-! ### the package step -/

theorem conflictNext_ctl (r : Req) (fp : Bool) {st : MState} (hi : MInv node emptyHash leaf c st)
    (hr : ∀ k, payloadCk c.origin r.payload = some k → k ∈ st.w.hist) :
    CtlStep node emptyHash leaf c st (conflictNext emptyHash c r fp st).1 ∧
    (conflictNext emptyHash c r fp st).1.next = st.next := by
  fun_cases conflictNext emptyHash c r fp st
  · exact ⟨.refl hi, rfl⟩
  · exact ⟨conflict_ctl _ ⟨r.ck, r.payload⟩ _ hi hr, rfl⟩
  · have f1 := fetchPending_ctl ‹_› hi
    exact ⟨f1.step, f1.next⟩
  · rename_i st1 p h
    have f1 := fetchPending_ctl h hi
    exact ⟨f1.step.trans (conflict_ctl _ p _ f1.step.inv (f1.step.frame.hist ▸ (f1.known p rfl).2)), f1.next⟩

/-- package `r.i` covers `[tileStart, pkgStop)` (the `tileStart` and `stop` of `pkgStep`): a whole tile, cut at
the end of the request -/
def Req.tileStart (r : Req) : Nat := r.rs + 256 * r.i
def Req.pkgStop (r : Req) : Nat := min r.stop (r.tileStart + 256)

theorem rs_mod (r : Req) : r.rs % 256 = 0 := by unfold Req.rs; omega

theorem lt_np {r : Req} {j : Nat} (h : j < r.numPackages) : r.rs + 256 * j < r.stop := by
  unfold Req.numPackages at h
  split at h <;> omega

theorem ge_np {r : Req} {j : Nat} (h : ¬ j < r.numPackages) (hne : r.start ≠ r.stop) (hle : r.start ≤ r.stop) :
    r.stop ≤ r.rs + 256 * j := by
  unfold Req.numPackages at h
  have := rs_mod r
  rw [if_neg hne] at h
  omega

theorem complete_length {st : MState} {ts stop : Nat} {xs all : List Entry} {fc : Bool}
    (h : complete st ts stop xs fc = some all) (hx : xs.length ≤ stop - ts) : all.length = stop - ts := by
  revert h
  fun_cases complete st ts stop xs fc
  all_goals intro h; cases h
  · rw [List.length_append, List.length_take]; omega
  · omega

theorem MInv.advance {st : MState} (hi : MInv node emptyHash leaf c st) {x y : Nat} (hx : st.next = some x)
    (hy : ∃ k ∈ st.w.hist, y ≤ k.1) (hcomp : ∀ M, M % 256 = 0 → x < M → M ≤ y → Complete st M) :
    MInv node emptyHash leaf c { st with next := some (max x y) } := by
  have hc := hi.ctl
  obtain ⟨hm, hk⟩ := hc.nx x hx
  refine ⟨{ hc with nx := ?_, rq := fun j r h => ?_ }, { hi.store with comp := fun M hM hle => ?_ }⟩
  · intro z hz; cases hz
    obtain ⟨k1, hk1, hk1'⟩ := hk
    obtain ⟨k2, hk2, hk2'⟩ := hy
    refine ⟨Nat.le_trans hm (Nat.le_max_left x y), ?_⟩
    rcases Nat.le_total k1.1 k2.1 with h | h
    · exact ⟨k2, hk2, Nat.max_le.2 ⟨Nat.le_trans hk1' h, hk2'⟩⟩
    · exact ⟨k1, hk1, Nat.max_le.2 ⟨hk1', Nat.le_trans hk2' h⟩⟩
  · refine (hc.rq j r h).mono rfl fun z hz => ⟨max x y, rfl, ?_⟩
    rw [hx] at hz; cases hz; exact Nat.le_max_left x y
  · have hM' : M ≤ max x y := Nat.le_trans hle (Nat.max_le.2 ⟨Nat.le_refl _, Nat.le_trans hm (Nat.le_max_left x y)⟩)
    by_cases h : M ≤ x
    · exact hi.store.comp M hM (hc.top_eq hx ▸ h)
    · exact hcomp M hM (by omega) (by omega)

theorem pkgUpload_inv (rid : Nat) {r : Req} {all : List Entry} (outs : List Fault) {st0 : MState}
    (hi : MInv node emptyHash leaf c st0) (hr : ReqInv node emptyHash leaf c st0 r) (hlt : r.i < r.numPackages)
    (hall : ∀ E, TruthH node emptyHash leaf st0.w.hist E → all = rng E r.tileStart r.pkgStop ∧ r.pkgStop ≤ E.length)
    (hlen : all.length = r.pkgStop - r.tileStart) :
    StepOK node emptyHash leaf c st0
      (pkgUpload node emptyHash rid r all (r.ov ++ all.map leaf) r.tileStart r.pkgStop outs st0).1 := by
  have hstop : r.pkgStop = min r.stop (r.tileStart + 256) := rfl
  have hts : r.tileStart = r.rs + 256 * r.i := rfl
  generalize r.pkgStop = stop at *
  generalize r.tileStart = ts at *
  have hts1 := lt_np hlt
  have hmod : ts % 256 = 0 := by have := rs_mod r; omega
  have hs1 : ts < stop := by omega
  have hs2 : stop ≤ ts + 256 := by omega
  have hovl : r.rs + r.ov.length = ts := by have := hr.ovlen; omega
  have hl : r.rs + (r.ov ++ all.map leaf).length = stop := by
    rw [List.length_append, List.length_map, hlen]; omega
  -- under any truth: the overlay after this package is the log's, the entries are its bundle `ts / 256`
  have hov : ∀ E, TruthH node emptyHash leaf st0.w.hist E →
      (r.ov ++ all.map leaf) = rng (E.map leaf) r.rs (r.rs + (r.ov ++ all.map leaf).length) ∧
      r.rs + (r.ov ++ all.map leaf).length ≤ E.length := by
    intro E hE
    obtain ⟨ha, hb⟩ := hall E hE
    have h1 := hr.ov E hE
    rw [hovl] at h1
    rw [hl, ← rng_append (E.map leaf) (by omega : r.rs ≤ ts) (by omega : ts ≤ stop), ← h1, rng_map_eq, ha]
    exact ⟨rfl, hb⟩
  have hall' : ∀ E, TruthH node emptyHash leaf st0.w.hist E →
      all = bundleOf E (ts / 256) (stop - ts) ∧ 256 * (ts / 256) + (stop - ts) ≤ E.length := by
    intro E hE
    obtain ⟨ha, hb⟩ := hall E hE
    unfold bundleOf
    rw [show 256 * (ts / 256) = ts by omega]
    exact ⟨ha, by omega⟩
  have hup := fun {s : MState} {ok : Bool}
      (h : uploadTiles node emptyHash r.rs (r.ov ++ all.map leaf) all (newTiles ts stop) outs st0 = (s, ok)) =>
    uploadTiles_store r.rs (r.ov ++ all.map leaf) all (ts / 256) (stop - ts) st0.w.hist hall' hov h rfl
      (fun t ht => newTiles_pkg hmod hs1 hs2 ht) hi.store
  fun_cases pkgUpload node emptyHash rid r all (r.ov ++ all.map leaf) ts stop outs st0
  · exact (hup ‹_›).1.stepOK hi
  · rename_i st1 heq nx
    obtain ⟨r1, r4⟩ := hup heq
    have i1 := r1.minv hi
    obtain ⟨x, hx, hx'⟩ := hr.nx
    have hxts : ts ≤ x := by have := hx' hlt; omega
    have hn1 : st1.next = some x := by rw [r1.ctl.next]; exact hx
    have hnx : nx = max x stop := by simp only [nx, hn1]
    rw [hnx]
    have hck1 : r.ck ∈ st1.w.hist := by rw [r1.ctl.w]; exact hr.ck
    have i2 := i1.advance (y := stop) hn1 ⟨r.ck, hck1, by rw [← hr.stop]; omega⟩
      (fun M hM h1 h2 l n w ht => by
        -- the frontier moved to the end of a full package
        obtain rfl : M = ts + 256 := by omega
        rcases isTile_or_new (o := ts) ht with h | h
        · exact i1.store.comp ts hmod (i1.ctl.top_eq hn1 ▸ hxts) l n w h
        · exact r4 rfl (l, n, w) ((show stop = ts + 256 by omega) ▸ h))
    refine .after ?_ (setReq_ctl i2 rid _ fun r' e => ?_).stepOK
    · exact r1.ctl.msame
    cases e
    refine ⟨hck1, hr.stop, hr.le, by rw [show st1.w = st0.w from r1.ctl.w]; exact hr.pay, hlt,
      ⟨max x stop, rfl, fun hlt2 => ?_⟩, ?_, fun E hE => ?_⟩
    · have h3 := lt_np (show r.i + 1 < r.numPackages from hlt2)
      show r.rs + 256 * (r.i + 1) ≤ max x stop
      omega
    · show r.rs + (r.ov ++ all.map leaf).length = min (r.rs + 256 * (r.i + 1)) r.stop
      omega
    · exact (hov E (by rw [← r1.ctl.w]; exact hE)).1

variable (node emptyHash leaf) in
/-- an authenticated package: `all` (the client's `xs`, completed from the backend) passed `CheckSubtree`
against the request's tree head, hence is the log's (`auth`) -/
structure PkgAuth (st : MState) (rid : Nat) (fc : Bool) (r : Req) (xs : List Entry) (proof : List Hash)
    (all : List Entry) : Prop where
  req : st.reqs rid = some r
  lt : r.i < r.numPackages
  complete : complete (st.setReq rid none) r.tileStart r.pkgStop xs fc = some all
  checked : checkSubtree node proof.reverse r.ck.1 r.ck.2 r.tileStart r.pkgStop (mth node emptyHash (all.map leaf)) = true
  length : all.length = r.pkgStop - r.tileStart
  auth : ∀ E, TruthH node emptyHash leaf st.w.hist E → all = rng E r.tileStart r.pkgStop ∧ r.pkgStop ≤ E.length

theorem pkgStep_cases (inj : NodeInj node) (linj : LeafInj leaf) (rid : Nat) (inp : PkgIn) (fc fp : Bool)
    (outs : List Fault) {st : MState} (hi : MInv node emptyHash leaf c st) :
    (CtlStep node emptyHash leaf c st (pkgStep node emptyHash leaf c rid inp fc fp outs st).1 ∧
      (pkgStep node emptyHash leaf c rid inp fc fp outs st).1.next = st.next) ∨
    ∃ r xs proof all, inp = .full xs proof ∧ PkgAuth node emptyHash leaf st rid fc r xs proof all ∧
      pkgStep node emptyHash leaf c rid inp fc fp outs st =
        pkgUpload node emptyHash rid r all (r.ov ++ all.map leaf) r.tileStart r.pkgStop outs (st.setReq rid none) := by
  have k0 : CtlStep node emptyHash leaf c st (st.setReq rid none) := setReq_ctl hi rid none nofun
  fun_cases pkgStep node emptyHash leaf c rid inp fc fp outs st
  · exact .inl ⟨.refl hi, rfl⟩
  · exact .inl ⟨.refl hi, rfl⟩
  · exact .inl ⟨k0, rfl⟩
  · rename_i r hreq _ _ _
    obtain ⟨k1, n1⟩ := conflictNext_ctl r fp k0.inv (hi.ctl.rq rid r hreq).pay
    exact .inl ⟨k0.trans k1, n1⟩
  · exact .inl ⟨k0, rfl⟩
  · exact .inl ⟨.refl hi, rfl⟩
  · rename_i r hreq hlt st0 ts start stop xs proof hlen
    fun_cases pkgFull node emptyHash leaf rid r xs proof fc outs ts stop st0
    · exact .inl ⟨k0, rfl⟩
    · exact .inl ⟨k0, rfl⟩
    · rename_i all hcomp _ _ hchk
      simp only [Bool.not_eq_true', Bool.not_eq_false] at hchk
      have hrq := hi.ctl.rq rid r hreq
      have hl := complete_length hcomp (by omega)
      refine .inr ⟨r, xs, proof, all, rfl, ⟨hreq, Nat.lt_of_not_le hlt, hcomp, hchk, hl, fun E hE => ?_⟩, rfl⟩
      obtain ⟨a1, a2⟩ := auth inj linj hi.ctl.wi.chain hrq.ck hE hchk hl
      exact ⟨a1, Nat.le_trans a2 (truth_mem node emptyHash leaf hi.ctl.wi.chain hE hrq.ck).1⟩

theorem pkgStep_inv (inj : NodeInj node) (linj : LeafInj leaf) (rid : Nat) (inp : PkgIn) (fc fp : Bool)
    (outs : List Fault) {st : MState} (hi : MInv node emptyHash leaf c st) :
    StepOK node emptyHash leaf c st (pkgStep node emptyHash leaf c rid inp fc fp outs st).1 := by
  rcases pkgStep_cases inj linj rid inp fc fp outs hi with ⟨k, _⟩ | ⟨r, _, _, _, _, pa, heq⟩
  · exact k.stepOK
  · have k0 : CtlStep node emptyHash leaf c st (st.setReq rid none) := setReq_ctl hi rid none nofun
    rw [heq]
    exact .after k0.frame.msame
      (pkgUpload_inv rid outs k0.inv ((hi.ctl.rq rid r pa.req).congr rfl rfl) pa.lt pa.auth pa.length)

/-! ### the commit step -/

theorem MInv.record {st : MState} (hi : MInv node emptyHash leaf c st) {ck : Nat × Hash} {next : Nat}
    (hck : ck ∈ st.w.hist) (hn : st.next = some next) (hge : ck.1 ≤ next)
    (hmir : (mirrorCk emptyHash st.mlock).1 ≤ ck.1)
    (hcut : ck.1 % 256 ≠ 0 → (st.hash 0 (ck.1 / 256) (ck.1 % 256)).isSome)
    (mc : Option MVal) (hmc : ∀ v, mc = some v → v = some (ck, st.serial)) (lg : List MEffect) :
    MInv node emptyHash leaf c
      { st with serial := st.serial + 1, mlock := some (ck, st.serial), mhist := st.mhist ++ [ck], mcache := mc, log := lg } := by
  have hc := hi.ctl
  refine ⟨{ hc with mh := forall_mem_concat hc.mh hck, mlast := by simp, mmono := ?_, mc := hmc, nx := ?_
                    rq := hc.rq_congr rfl rfl rfl
                    rel := fun k hk => List.mem_append_left _ (hc.rel k hk)
                    pub := fun k hk => List.mem_append_left _ (hc.pub k hk) },
    { hi.store with comp := fun M hM hle => hi.store.comp M hM ?_, cut := forall_mem_concat hi.store.cut hcut }⟩
  · rw [List.pairwise_append]
    refine ⟨hc.mmono, by simp, fun a ha b hb => ?_⟩
    rw [List.mem_singleton.1 hb]
    exact Nat.le_trans (hc.le_mirrorCk ha) hmir
  · intro x hx
    rw [show x = next from Option.some.inj (hx.symm.trans hn)]
    exact ⟨hge, (hc.nx next hn).2⟩
  · rw [hc.top_eq hn]
    exact Nat.le_trans hle (Nat.max_le.2 ⟨by rw [show _ = st.next from rfl, hn]; exact Nat.le_refl _, hge⟩)

theorem MInv.publish {st : MState} (hi : MInv node emptyHash leaf c st) {ck : Nat × Hash} (hm : ck ∈ st.mhist)
    (b : Bool) (lg : List MEffect) :
    MInv node emptyHash leaf c { st with mpub := if b then some ck else st.mpub, log := lg } := by
  refine ⟨{ hi.ctl with rq := hi.ctl.rq_congr rfl rfl rfl,
                         pub := fun k hk => ?_ }, { hi.store with }⟩
  cases b
  · exact hi.ctl.pub k hk
  · cases hk; exact hm

theorem MInv.release {st : MState} (hi : MInv node emptyHash leaf c st) {ck : Nat × Hash} (hm : ck ∈ st.mhist) :
    MInv node emptyHash leaf c { st with released := st.released ++ [ck] } := by
  exact ⟨{ hi.ctl with rq := hi.ctl.rq_congr rfl rfl rfl,
                        rel := forall_mem_concat hi.ctl.rel hm }, { hi.store with }⟩

theorem commitRecord_inv (r : Req) (rep up : Fault) {st2 : MState} {next : Nat}
    (hi : MInv node emptyHash leaf c st2) (hck : r.ck ∈ st2.w.hist) (hn : st2.next = some next) (hge : r.ck.1 ≤ next)
    (hmir : (mirrorCk emptyHash st2.mlock).1 ≤ r.ck.1)
    (hcut : r.ck.1 % 256 ≠ 0 → (st2.hash 0 (r.ck.1 / 256) (r.ck.1 % 256)).isSome) :
    StepOK node emptyHash leaf c st2 (commitRecord r rep up st2).1 := by
  unfold commitRecord
  dsimp only
  split
  · exact .refl hi
  rename_i v hmc
  cases hi.ctl.mc v hmc
  simp only [decide_true, Bool.true_and]
  cases hra : rep.applied
  · -- nothing was written, and the caller was told so
    have : rep.isOk = false := by cases rep <;> first | rfl | cases hra
    simp only [this, Bool.not_false, if_true, Bool.false_eq_true, if_false]
    exact ⟨hi.setMcache none nofun _ (Or.inl rfl) _ _, Or.inl ⟨rfl, rfl⟩⟩
  · simp only [if_true]
    have i3 := fun mc hmc lg => hi.record hck hn hge hmir hcut mc hmc lg
    have hm : r.ck ∈ st2.mhist ++ [r.ck] := by simp
    split
    · exact ⟨i3 none nofun _, Or.inr ⟨r.ck, st2.serial, rfl, rfl⟩⟩
    · have i4 := (i3 (some (some (r.ck, st2.serial))) (fun v e => (Option.some.inj e).symm) []).publish hm up.applied
      split
      · exact ⟨i4 _, Or.inr ⟨r.ck, st2.serial, rfl, rfl⟩⟩
      · exact ⟨(i4 _).release hm, Or.inr ⟨r.ck, st2.serial, rfl, rfl⟩⟩

theorem commitDecide_inv (r : Req) (fp fh fw : Bool) (ud uh rep up : Fault) {next : Nat}
    {st1 : MState} (hi : MInv node emptyHash leaf c st1) (hck : r.ck ∈ st1.w.hist) (hn : st1.next = some next) :
    StepOK node emptyHash leaf c st1
      (commitDecide emptyHash leaf c r fp fh fw ud uh rep up (mirrorP emptyHash st1.mlock) next st1).1 := by
  fun_cases commitDecide emptyHash leaf c r fp fh fw ud uh rep up (mirrorP emptyHash st1.mlock) next st1
  · exact .refl hi
  · exact (fetchPending_ctl ‹_› hi).step.stepOK
  · rename_i st2 p h
    have f1 := fetchPending_ctl h hi
    exact (f1.step.trans (conflict_ctl stConflict p next f1.step.inv (f1.step.frame.hist ▸ (f1.known p rfl).2))).stepOK
  · exact (ensureCut_store ‹_› hi.store).1.stepOK hi
  · rename_i hge hmir st2 h
    obtain ⟨r1, r4⟩ := ensureCut_store h hi.store
    exact .after r1.ctl.msame (commitRecord_inv r rep up (r1.minv hi)
      (by rw [r1.ctl.w]; exact hck) (by rw [r1.ctl.next]; exact hn) (Nat.le_of_not_lt hge)
      (by rw [r1.ctl.mlock, ← mirrorP_ck]; exact Nat.le_of_not_lt hmir) (r4 rfl))

theorem commitStep_inv (rid : Nat) (fm fp fh fw : Bool) (ud uh rep up : Fault) {st : MState}
    (hi : MInv node emptyHash leaf c st) :
    StepOK node emptyHash leaf c st (commitStep emptyHash leaf c rid fm fp fh fw ud uh rep up st).1 := by
  have k0 : CtlStep node emptyHash leaf c st (st.setReq rid none) := setReq_ctl hi rid none nofun
  fun_cases commitStep emptyHash leaf c rid fm fp fh fw ud uh rep up st
  · exact .refl hi
  · exact .refl hi
  · exact (k0.trans (fetchMirror_ctl ‹_› k0.inv).step).stepOK
  · rename_i r hreq _ _ st1 mir next h
    have f1 := fetchMirror_ctl h k0.inv
    obtain ⟨rfl, pn⟩ := f1.got mir next rfl
    rw [show (st.setReq rid none).mlock = st1.mlock from f1.step.frame.mlock.symm]
    exact .after (k0.trans f1.step).frame.msame
      (commitDecide_inv r fp fh fw ud uh rep up f1.step.inv (f1.w ▸ (hi.ctl.rq rid r hreq).ck) pn)

/-! ### restart, add-checkpoint, every reachable state -/

theorem restart_inv {st : MState} (hi : MInv node emptyHash leaf c st) : MInv node emptyHash leaf c (restart st) := by
  refine ⟨{ hi.ctl with wi := inv_restart hi.ctl.wi 0, cache := fun v k hv => ?_,
                         mc := nofun, nx := nofun, rq := nofun },
    { hi.store with comp := fun M hM hle => hi.store.comp M hM ?_ }⟩
  · simp [restart, OState.restart, OState.setCache] at hv
  · exact Nat.le_trans hle (Nat.max_le.2 ⟨Nat.zero_le _, Nat.le_max_right _ _⟩)

variable (node emptyHash leaf)

/-- what `addCheckpoint_summary` says of the request is what `MInv.extend` asks for -/
theorem addCk_inv (inj : NodeInj node) {c : MCfg} {st : MState} (e : Env) (hi : MInv node emptyHash leaf c st)
    (ho : e.origin = c.origin) :
    MInv node emptyHash leaf c { st with w := (addCheckpoint node emptyHash e st.w).1 } := by
  have sm := addCheckpoint_summary node emptyHash e st.w
  refine hi.extend (ho ▸ inv_add inj e (ho ▸ hi.ctl.wi)) ?_ (sm.cache 0) st.log
  rcases sm.core with k | ⟨_, _, t⟩
  · exact .inl k.hist
  · exact .inr ⟨_, t.hist⟩

theorem init_inv (c : MCfg) (enforce : Bool) : MInv node emptyHash leaf c (MState.init emptyHash enforce) := by
  refine ⟨⟨inv_init c.origin, by simp [MState.init, OState.init], nofun, nofun, rfl, List.Pairwise.nil,
    nofun, nofun, nofun, nofun, nofun, nofun⟩, ⟨fun _ _ => nofun, fun _ _ => nofun, ?_, nofun, nofun⟩⟩
  intro M hM hle l n w ht
  have h0 : M = 0 := Nat.le_zero.1 hle
  subst h0
  unfold IsTile lvl at ht
  have : 0 / 256 ^ l = 0 := Nat.zero_div _
  omega

theorem step_inv (inj : NodeInj node) (linj : LeafInj leaf) {c : MCfg} {st : MState} (ev : Ev)
    (hi : MInv node emptyHash leaf c st) (hadm : Admissible c st ev) :
    StepOK node emptyHash leaf c st (step node emptyHash leaf c st ev).1 := by
  cases ev with
  | addCk e =>
    simp only [step]
    split
    · exact ⟨addCk_inv node emptyHash leaf inj e hi (‹_ ∧ _›).1, Or.inl ⟨rfl, rfl⟩⟩
    · exact .refl hi
  | mdata rid q fp fm => exact (metadata_ctl rid q fp fm hi hadm).stepOK
  | pkg rid inp fc fp outs => exact pkgStep_inv inj linj rid inp fc fp outs hi
  | commit rid fm fp fh fw ud uh rep up => exact commitStep_inv rid fm fp fh fw ud uh rep up hi
  | restart => exact ⟨restart_inv hi, Or.inl ⟨rfl, rfl⟩⟩

theorem reachable_inv (inj : NodeInj node) (linj : LeafInj leaf) {c : MCfg} {st : MState}
    (hr : Reachable node emptyHash leaf c st) : MInv node emptyHash leaf c st := by
  induction hr with
  | init enforce => exact init_inv node emptyHash leaf c enforce
  | step st ev _ hadm ih => exact (step_inv node emptyHash leaf inj linj ev ih hadm).1

end Mirror
