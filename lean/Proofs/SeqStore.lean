import Proofs.SeqInv2
import Proofs.SeqTiles
/-! Store invariants of the sequencer model (I3, I5): without tampering, every published checkpoint is
completely backed by tile objects with the prescribed content; an idle or freshly loaded instance sits on a
completely rendered tree, and so does a sequencing one except from its compare-and-swap to the end of its tile
batch, when only the tree it held before is (`SOK`; nothing is stated of a round at `done fatal`); a staged bundle always belongs to a completely
rendered base tree. -/
namespace Seq

def Good (st : Store) (tr : Tree) (t : TileId) : Prop := st (.tile t) = some (.slice (t.slice tr), true)

/-- the level bound is that of `levelsFor`: a tree of 64-bit size has no tile above level 7, and a bundle lists none -/
def Complete (st : Store) (tr : Tree) : Prop :=
  ∀ t, Req tr.length t = true → t.kind.level < 8 → Good st tr t

def TileLe (st st' : Store) : Prop := ∀ t o, st (.tile t) = some (o, true) → st' (.tile t) = some (o, true)

theorem TileLe.refl (st : Store) : TileLe st st := fun _ _ h => h

theorem Good.mono {st st' : Store} (h : TileLe st st') {tr : Tree} {t : TileId} (g : Good st tr t) : Good st' tr t :=
  h _ _ g

theorem Complete.mono {st st' : Store} (h : TileLe st st') {tr : Tree} (c : Complete st tr) : Complete st' tr :=
  fun t hr hl => (c t hr hl).mono h

theorem complete_nil (st : Store) : Complete st [] := by
  intro t hr _
  unfold Req at hr
  simp at hr
  omega

theorem complete_extend {st : Store} {old new : Tree} (hc : Complete st old) (hp : old <+: new)
    (hn : ∀ t, NewAt old.length new.length t = true → t.kind.level < 8 → Good st new t) : Complete st new := by
  intro t hr hl
  rcases req_cover hp.length_le hr with h | h
  · exact hn t h hl
  · have := hc t h hl
    unfold Good at *
    rw [slice_stable hp h]; exact this

theorem storeUpload_tileLe {st st' : Store} {k : Key} {imm : Bool} {o : Obj} {r : Res}
    (h : storeUpload st k imm o r = some st') (himm : ∀ t, k = .tile t → imm = true) : TileLe st st' := by
  intro t old hold
  rcases storeUpload_cases h with ⟨_, rfl, hsame⟩ | ⟨_, rfl⟩
  · by_cases hk : Key.tile t = k
    · subst hk
      rw [himm t rfl, hsame old hold]; simp [updK]
    · simp [updK, hk, hold]
  · exact hold

theorem tileLe_discard (st : Store) (t : Tree) : TileLe st (updK st (.staging t) none) := by
  intro tl o h
  simp [updK, h]

theorem Step.tileLe {s s' : Sys} {e : Ev} (h : Step s e s') (ht : s'.tampered = false) : TileLe s.store s'.store := by
  cases h.store_cases with
  | same h1 => rw [h1]; exact TileLe.refl _
  | upload _ h1 h2 => exact storeUpload_tileLe h1 h2
  | discard _ _ _ h1 => rw [h1]; exact tileLe_discard _ _
  | tamper ev => exact absurd ev ((h.tampered ht).2 _ _)

theorem step_store (s s' : Sys) (e : Ev) (h : step s e = some s') (ht : s'.tampered = false) :
    s'.store = s.store ∨
    (∃ k imm o r, storeUpload s.store k imm o r = some s'.store ∧ (∀ t, k = Key.tile t → imm = true)) ∨
    (∃ t, s'.store = updK s.store (.staging t) none) := by
  have hS := step_sound h
  cases hS.store_cases with
  | same h1 => exact .inl h1
  | upload _ h1 h2 => exact .inr (.inl ⟨_, _, _, _, h1, h2⟩)
  | discard _ _ _ h1 => exact .inr (.inr ⟨_, h1⟩)
  | tamper ev => exact absurd ev ((hS.tampered ht).2 _ _)

theorem bundle_mem_of_newAt {o : Nat} {tr : Tree} {items : List (TileId × Tree)}
    (hb : bundleOK o tr items = true) {t : TileId} (hn : NewAt o tr.length t = true) (hl : t.kind.level < 8) :
    t ∈ items.map (·.1) := by
  simp only [bundleOK, Bool.and_eq_true, List.all_eq_true] at hb
  have := hb.1.2 t (mem_newTilesList hn hl)
  simpa using this

theorem bundle_slice {o : Nat} {tr : Tree} {items : List (TileId × Tree)}
    (hb : bundleOK o tr items = true) {p : TileId × Tree} (hp : p ∈ items) : p.2 = p.1.slice tr := by
  simp only [bundleOK, Bool.and_eq_true, List.all_eq_true] at hb
  have := hb.1.1 p hp
  simp only [beq_iff_eq] at this
  exact this.2

theorem complete_of_bundle {st : Store} {old new : Tree} {items : List (TileId × Tree)}
    (hc : Complete st old) (hp : old <+: new) (hb : bundleOK old.length new items = true)
    (hg : ∀ t ∈ items.map (·.1), Good st new t) : Complete st new :=
  complete_extend hc hp fun t hn hl => hg t (bundle_mem_of_newAt hb hn hl)

def BundleFacts (rd : Round) : Prop :=
  rd.old.leaves <+: rd.new.leaves ∧
  ∃ items, rd.bundle = items.map (·.1) ∧ bundleOK rd.old.leaves.length rd.new.leaves items = true

/-- Per phase, the tree that must be completely rendered so that whatever the instance publishes next is
    (`inv3_step`, first clause). Up to `cas` and from `ckpt` on it is the held tree. In the tile batch the held
    tree is already `rd.new`, which is not rendered yet: there it is `rd.old`, with the bundle facts and the
    tiles uploaded so far, and `complete_of_ready` puts the three together when the batch is over. A recovery
    at `apply` is in the same position, with the base tree `Inv3.staged` gave it. The uploaded tiles are `Good`
    only while `failed = false`: a failed upload enters `done` (leaves `rem`) whether or not it took effect,
    and after one the round (the load) can only fail. A creation publishes the empty tree (`complete_nil`);
    at `clock2 _ c1`, `c1` is the fetched checkpoint object, hence published. -/
def SOK (st : Store) (x : Inst) : Prop :=
  match x.phase with
  | .idle => Complete st x.tree.leaves
  | .creating (.lockCreate c) => c.leaves = []
  | .creating (.ckptUpload c) => c.leaves = []
  | .round rd => (match rd.pc with
     | .clock => Complete st x.tree.leaves
     | .stage => Complete st x.tree.leaves ∧ rd.slots ≠ []
     | .cas => Complete st x.tree.leaves ∧ (rd.slots = [] → rd.new.leaves = x.tree.leaves) ∧ (rd.slots ≠ [] → BundleFacts rd)
     | .tiles done failed => Complete st rd.old.leaves ∧ BundleFacts rd ∧ (failed = false → ∀ t ∈ done, Good st rd.new.leaves t)
     | .ckpt => Complete st x.tree.leaves
     | .discard => Complete st x.tree.leaves
     | .done .ok => Complete st x.tree.leaves
     | .done .failed => Complete st x.tree.leaves
     | .done .fatal => True)
  | .loading (.clock2 _ c1) => Complete st c1.leaves
  | .loading (.apply c rem failed) =>
      ∃ old items, bundleOK old.length c.leaves items = true ∧ old <+: c.leaves ∧ Complete st old ∧
        (∀ p ∈ rem, p ∈ items) ∧ (failed = false → ∀ p ∈ items, p ∉ rem → Good st c.leaves p.1)
  | .loading (.edge c _) => Complete st c.leaves
  | _ => True

theorem SOK.mono {st st' : Store} (h : TileLe st st') {x : Inst} (g : SOK st x) : SOK st' x := by
  unfold SOK at *
  cases hph : x.phase with
  | down => simp only [hph] at g ⊢
  | stopped => simp only [hph] at g ⊢
  | idle => simp only [hph] at g ⊢; exact g.mono h
  | creating pc => cases pc <;> simp only [hph] at g ⊢ <;> exact g
  | loading pc =>
    cases pc <;> simp only [hph] at g ⊢
    · exact g.mono h
    · obtain ⟨old, items, h1, h2, h3, h4, h5⟩ := g
      exact ⟨old, items, h1, h2, h3.mono h, h4, fun hf p hp hn => (h5 hf p hp hn).mono h⟩
    · exact g.mono h
  | round rd =>
    simp only [hph] at g ⊢
    cases hpc : rd.pc with
    | clock => simp only [hpc] at g ⊢; exact g.mono h
    | stage => simp only [hpc] at g ⊢; exact ⟨g.1.mono h, g.2⟩
    | cas => simp only [hpc] at g ⊢; exact ⟨g.1.mono h, g.2⟩
    | tiles done failed =>
      simp only [hpc] at g ⊢
      exact ⟨g.1.mono h, g.2.1, fun hf t ht => (g.2.2 hf t ht).mono h⟩
    | ckpt => simp only [hpc] at g ⊢; exact g.mono h
    | discard => simp only [hpc] at g ⊢; exact g.mono h
    | done c => cases c <;> simp only [hpc] at g ⊢ <;> first | exact g.mono h | trivial

structure Inv3 (s : Sys) : Prop where
  pub : ∀ c ∈ s.pubHist, Complete s.store c.leaves
  ckpt : ∀ c imm, s.store .ckpt = some (.ck c, imm) → c ∈ s.pubHist
  staged : ∀ tr items imm, s.store (.staging tr) = some (.bundle items, imm) →
    ∃ old, bundleOK (List.length old) tr items = true ∧ old <+: tr ∧ Complete s.store old
  inst : ∀ i, SOK s.store (s.insts i)

theorem complete_of_ready {st : Store} {H : List Ck} {x : Inst} {rd : Round} (hi : SOK st x) (h1i : InstOK H x)
    (hph : x.phase = .round rd)
    (hready : rd.pc = .ckpt ∨ ∃ done, rd.pc = .tiles done false ∧ ∀ t ∈ rd.bundle, t ∈ done) :
    rd.new = x.tree ∧ Complete st rd.new.leaves := by
  rcases hready with hpc | ⟨done, hpc, hall⟩ <;> simp only [SOK, hph, hpc] at hi <;>
    simp only [InstOK, RoundOK, hph, hpc] at h1i
  · exact ⟨h1i.2, h1i.2 ▸ hi⟩
  · obtain ⟨hcomp, ⟨hpre, items, hbi, hb⟩, hgood⟩ := hi
    exact ⟨h1i.2, complete_of_bundle hcomp hpre hb fun t ht => hgood trivial t (hall t (hbi ▸ ht))⟩

theorem good_after_apply {st st' : Store} {tr old : Tree} {items rem : List (TileId × Tree)} {t : TileId} {xs : Tree}
    (hb : bundleOK old.length tr items = true) (hsub : ∀ p ∈ rem, p ∈ items) (hmem : (t, xs) ∈ rem)
    (hst : storeUpload st (.tile t) true (.slice xs) .ok = some st') (hle : TileLe st st')
    (hgood : ∀ p ∈ items, p ∉ rem → Good st tr p.1) :
    ∀ p ∈ items, p ∉ rem.filter (fun p => p.1 != t) → Good st' tr p.1 := by
  intro p hp hnp
  by_cases hpr : p ∈ rem
  · have hpt : p.1 = t := by simpa [List.mem_filter, hpr] using hnp
    have := storeUpload_at hst rfl
    rwa [show xs = t.slice tr from bundle_slice hb (hsub _ hmem), ← hpt] at this
  · exact (hgood p hp hpr).mono hle

attribute [local simp] setPhase Sys.setInst Sys.pushLock Sys.stored upd in
theorem Step.sok {s s' : Sys} {e : Ev} {i : Nat} (hS : Step s e s') (he : e.inst = some i) (h3 : Inv3 s) (h1 : Inv s)
    (hle : TileLe s.store s'.store) : SOK s'.store (s'.insts i) := by
  have hi := h3.inst i
  have h1i := h1.inst i
  cases hS with
  | fetchCkpt hph hst => cases he; simpa [SOK] using h3.pub _ (h3.ckpt _ _ hst)
  | fetchStaging hph hst =>
    cases he
    obtain ⟨old, a, b, c⟩ := h3.staged _ _ _ hst
    simpa [SOK] using ⟨old, _, a, b, c, fun _ _ h => h, fun _ _ h hn => absurd h hn⟩
  | @uploadStaging _ rd items st' hph hpc hb hst =>
    cases he
    simp only [SOK, hph, hpc] at hi
    simp only [InstOK, RoundOK, hph, hpc] at h1i
    obtain ⟨_, hold, ⟨add, hadd⟩, _⟩ := h1i
    simp only [SOK, setPhase, Sys.setInst, upd, if_true, Sys.stored]
    exact ⟨hi.1.mono hle, fun he => absurd he hi.2,
      fun _ => ⟨by rw [hold, hadd]; exact List.prefix_append _ _, items, rfl, hb⟩⟩
  | @uploadTile _ rd done failed t r st' hph hpc hmem hnew hst =>
    cases he
    simp only [SOK, hph, hpc] at hi
    obtain ⟨hcomp, hb, hgood⟩ := hi
    simp only [SOK, setPhase, Sys.setInst, upd, if_true, Sys.stored]
    refine ⟨hcomp.mono hle, hb, fun hf t' ht' => ?_⟩
    have hfr : failed = false ∧ r = .ok := by cases failed <;> cases r <;> simp_all
    rcases List.mem_cons.1 ht' with rfl | hm
    · exact storeUpload_at hst (by rw [hfr.2]; rfl)
    · exact (hgood hfr.1 t' hm).mono hle
  | @uploadCkpt _ rd st' hph hready hst | @uploadCkptEmpty _ rd st' hph hready hst
  | @uploadCkptFail _ rd _ st' hph _ hready hst =>
    cases he
    obtain ⟨hnew, hc⟩ := complete_of_ready hi h1i hph hready
    simpa [SOK] using hnew ▸ hc.mono hle
  | casOk hph hpc _ hs =>
    -- the swap makes `rd.new` the held tree; the rendered one is `rd.old`, the tree held until now (`RoundOK` at `cas`)
    cases he
    simp only [SOK, hph, hpc] at hi
    simp only [InstOK, RoundOK, hph, hpc] at h1i
    simpa [SOK] using ⟨h1i.2.1 ▸ hi.1, hi.2.2 hs⟩
  | uploadStagingFail hph hpc =>
    cases he
    simp only [SOK, hph, hpc] at hi
    simpa [SOK] using hi.1.mono hle
  | discard hph hpc =>
    cases he
    simp only [SOK, hph, hpc] at hi
    simpa [SOK] using hi.mono hle
  | uploadIssuer | uploadIssuerFail =>
    cases he
    have := SOK.mono hle hi
    unfold SOK at this ⊢
    simpa using this
  | @uploadApplyLast _ c rem failed t xs r st' hph hmem hlast hok hst =>
    cases he
    simp only [SOK, hph] at hi
    obtain ⟨old, items, hb, hpre, hcomp, hsub, hgood⟩ := hi
    obtain ⟨rfl, rfl⟩ : failed = false ∧ r = .ok := by cases failed <;> cases r <;> simp_all
    suffices Complete st' c.leaves by simpa [SOK]
    -- the last tile, no failure: every tile of the bundle is in the store
    refine complete_of_bundle (hcomp.mono hle) hpre hb fun t' ht' => ?_
    obtain ⟨p, hp, rfl⟩ := List.mem_map.1 ht'
    exact good_after_apply hb hsub hmem hst hle (hgood rfl) p hp (by rw [List.isEmpty_iff.1 hlast]; simp)
  | @uploadApply _ c rem failed t xs r st' hph hmem _ hst =>
    cases he
    simp only [SOK, hph] at hi
    obtain ⟨old, items, hb, hpre, hcomp, hsub, hgood⟩ := hi
    simp only [SOK, setPhase, Sys.setInst, upd, if_true, Sys.stored]
    refine ⟨old, items, hb, hpre, hcomp.mono hle, fun p hp => hsub p (List.mem_filter.1 hp).1, fun hff => ?_⟩
    obtain ⟨rfl, rfl⟩ : failed = false ∧ r = .ok := by cases failed <;> cases r <;> simp_all
    exact good_after_apply hb hsub hmem hst hle (hgood rfl)
  -- `leavesOf`: the new tree of a round without slots is the held tree
  | _ => cases he <;> simp_all [SOK, InstOK, RoundOK, leavesOf]


theorem inv3_step (s s' : Sys) (e : Ev) (h3 : Inv3 s) (h1 : Inv s) (h : step s e = some s')
    (ht : s'.tampered = false) : Inv3 s' := by
  have hS := step_sound h
  have hle := hS.tileLe ht
  have hnt := (hS.tampered ht).2
  refine ⟨fun c hc => ?_, fun c imm hc => ?_, fun tr items imm hs => ?_, fun j => ?_⟩
  · -- a newly published checkpoint is the empty one of log creation, or the new tree of a round whose batch is over
    cases hS.pub_cases with
    | same hp => exact (h3.pub c (hp ▸ hc)).mono hle
    | @publish i c' hp _ hwho =>
      rw [hp] at hc
      rcases List.mem_cons.1 hc with rfl | hc
      · have hi := h3.inst i
        rcases hwho with hph | ⟨rd, hph, rfl, hready⟩
        · simp only [SOK, hph] at hi
          rw [hi]; exact complete_nil _
        · exact (complete_of_ready hi (h1.inst i) hph hready).2.mono hle
      · exact (h3.pub c hc).mono hle
  · -- the checkpoint object and `pubHist` change together
    cases hS.pub_cases with
    | same hp hck =>
      rcases hck with hsame | ⟨k, o, rfl⟩
      · rw [hp]; exact h3.ckpt c imm (hsame ▸ hc)
      · exact absurd rfl (hnt k o)
    | publish hp hck =>
      rw [hck] at hc; cases hc
      rw [hp]; exact List.mem_cons_self
  · -- a bundle that was there before keeps its base tree, which stays rendered
    rcases hS.obj_cases ht hs with h0 | ⟨i, r, rfl⟩
    · obtain ⟨old, a, b, c⟩ := h3.staged tr items imm h0
      exact ⟨old, a, b, c.mono hle⟩
    · -- newly staged: the base is the tree the round holds
      obtain ⟨rd, _, u⟩ := hS.upload_staging
      cases u.tree
      cases u.obj
      have hi := h3.inst i
      have h1i := h1.inst i
      simp only [SOK, u.phase, u.pc] at hi
      simp only [InstOK, RoundOK, u.phase, u.pc] at h1i
      obtain ⟨_, hold, ⟨add, hadd⟩, _⟩ := h1i
      exact ⟨(s.insts i).tree.leaves, hold ▸ u.bundle, hadd ▸ List.prefix_append _ _, hi.1.mono hle⟩
  · by_cases hj : e.inst = some j
    · exact hS.sok hj h3 h1 hle
    · rw [hS.others hj]; exact (h3.inst j).mono hle

theorem inv3_init (p : Nat) : Inv3 (init p) := by
  refine ⟨?_, ?_, ?_, ?_⟩
  · intro c hc; simp [init] at hc
  · intro c imm h; simp [init] at h
  · intro tr items imm h; simp [init] at h
  · intro i; simp [init, SOK]

theorem inv3_reachable {s : Sys} (h : Reachable s) : s.tampered = false → Inv3 s :=
  h.induction (fun p _ => inv3_init p) fun s e s' r ih hst ht =>
    inv3_step s s' e (ih ((step_sound hst).tampered ht).1) (inv_reachable r) hst ht

end Seq
