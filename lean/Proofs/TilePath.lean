import Model.TilePath
/-!
`tlog.ParseTilePath` is the exact inverse of `Tile.Path` on the valid tiles (`tlogParse_iff`). What `Path` writes is a
`/`-join of segments without `/` (`coords_struct`), so `strings.Split` gives the segments back (`split_joinSlash`) and
the parser is run on them (`prelim_of_split`); that nothing else is accepted needs of the parser on arbitrary input only the
bounds it checks (`prelim_bounds`), since it ends with the re-check `path != t.Path()`.
-/
namespace TilePath

theorem split_ne_nil (sep : UInt8) (s : Bytes) : split sep s ≠ [] := by
  cases s with
  | nil => simp [split]
  | cons b bs =>
    simp only [split]
    split
    · simp
    · split <;> simp

theorem not_mem_of_mem_split (sep : UInt8) (q : Bytes) : ∀ s ∈ split sep q, sep ∉ s := by
  induction q with
  | nil => intro s hs; rw [List.mem_singleton.mp hs]; simp
  | cons b bs ih =>
    intro s hs
    simp only [split] at hs
    split at hs
    · exact (List.mem_cons.mp hs).elim (fun h => by simp [h]) (ih s)
    · rename_i hb
      split at hs
      · rw [List.mem_singleton.mp hs]; simpa using Ne.symm hb
      · rename_i x xs hx
        rw [hx] at ih
        rcases List.mem_cons.mp hs with rfl | h
        · intro hm
          rcases List.mem_cons.mp hm with h1 | h1
          · exact hb h1.symm
          · exact ih x (by simp) h1
        · exact ih s (List.mem_cons_of_mem _ h)

theorem split_of_not_mem (sep : UInt8) (a : Bytes) (h : sep ∉ a) : split sep a = [a] := by
  induction a with
  | nil => rfl
  | cons b bs ih =>
    have hb : b ≠ sep := fun hc => h (by simp [hc])
    have hbs : sep ∉ bs := fun hc => h (by simp [hc])
    simp only [split, hb, if_false, ih hbs]

theorem split_append_cons (sep : UInt8) (a b : Bytes) (h : sep ∉ a) : split sep (a ++ sep :: b) = a :: split sep b := by
  induction a with
  | nil => simp [split]
  | cons c cs ih =>
    have hc : c ≠ sep := fun hc => h (by simp [hc])
    have hcs : sep ∉ cs := fun hc => h (by simp [hc])
    simp only [List.cons_append, split, hc, if_false, ih hcs]

theorem append_cons_inj {c : UInt8} {a a' r r' : Bytes} (h : c ∉ a) (h' : c ∉ a') (e : a ++ c :: r = a' ++ c :: r') :
    a = a' ∧ r = r' := by
  have hs := congrArg (split c) e
  rw [split_append_cons c a r h, split_append_cons c a' r' h'] at hs
  obtain rfl := (List.cons.inj hs).1
  exact ⟨rfl, (List.cons.inj (List.append_cancel_left e)).2⟩

/-- `strings.Join(S, "/")` -/
def joinSlash : List Bytes → Bytes
  | [] => []
  | [s] => s
  | s :: r => s ++ 47 :: joinSlash r

theorem joinSlash_cons (a : Bytes) {r : List Bytes} (h : r ≠ []) : joinSlash (a :: r) = a ++ 47 :: joinSlash r := by
  cases r with
  | nil => exact absurd rfl h
  | cons b r => rfl

theorem split_joinSlash : ∀ {S : List Bytes}, S ≠ [] → (∀ s ∈ S, (47 : UInt8) ∉ s) → split 47 (joinSlash S) = S
  | [a], _, hs => split_of_not_mem 47 a (hs a (by simp))
  | a :: b :: r, _, hs => by
    rw [joinSlash_cons a (by simp), split_append_cons 47 a _ (hs a (by simp)),
      split_joinSlash (by simp) (fun s h => hs s (List.mem_cons_of_mem _ h))]

theorem joinSlash_flatten (G : List Bytes) {T : List Bytes} (hT : T ≠ []) :
    joinSlash (G ++ [joinSlash T]) = joinSlash (G ++ T) := by
  induction G with
  | nil => rfl
  | cons g gs ih =>
    rw [List.cons_append, List.cons_append, joinSlash_cons g (by simp), ih, joinSlash_cons g (by simp [hT])]

theorem joinSlash_append_last (G : List Bytes) (e x : Bytes) : joinSlash (G ++ [e]) ++ x = joinSlash (G ++ [e ++ x]) := by
  induction G with
  | nil => rfl
  | cons g gs ih =>
    rw [List.cons_append, List.cons_append, joinSlash_cons g (by simp), joinSlash_cons g (by simp), ← ih]
    simp

theorem mem_joinSlash {b : UInt8} : ∀ {S : List Bytes}, b ∈ joinSlash S → b = 47 ∨ ∃ s ∈ S, b ∈ s
  | [], h => by cases h
  | [s], h => Or.inr ⟨s, by simp, h⟩
  | s :: t :: r, h => by
    rw [joinSlash_cons s (by simp)] at h
    rcases List.mem_append.mp h with h | h
    · exact Or.inr ⟨s, by simp, h⟩
    · rcases List.mem_cons.mp h with h | h
      · exact Or.inl h
      · exact (mem_joinSlash h).imp id fun ⟨g', hg', hb⟩ => ⟨g', List.mem_cons_of_mem _ hg', hb⟩

theorem not_mem_of_all {p : UInt8 → Bool} {s : Bytes} (h : s.all p = true) {c : UInt8} (hc : p c = false) : c ∉ s :=
  fun hm => by rw [List.all_eq_true.mp h c hm] at hc; cases hc

theorem ne_of_isDigit {c d : UInt8} (hc : isDigit c = true) (hd : isDigit d = false) : c ≠ d := by
  rintro rfl
  rw [hc] at hd
  cases hd

theorem digitOrMinus_ne {b c : UInt8} (h : b = 45 ∨ isDigit b = true) (hc : c ≠ 45) (hd : isDigit c = false) : b ≠ c :=
  h.elim (fun hb => hb ▸ hc.symm) (ne_of_isDigit · hd)

theorem hasSuffix_false {s suf : Bytes} {c : UInt8} (hc : c ∈ suf) (hs : c ∉ s) : hasSuffix s suf = false := by
  refine Bool.eq_false_iff.mpr fun h => hs ?_
  simp only [hasSuffix, Bool.and_eq_true, decide_eq_true_eq, beq_iff_eq] at h
  rw [← h.2] at hc
  exact List.mem_of_mem_drop hc

theorem hasSuffix_append (a b : Bytes) : hasSuffix (a ++ b) b = true := by
  simp [hasSuffix]

theorem take_append_sub_length (a b : Bytes) : (a ++ b).take ((a ++ b).length - b.length) = a := by
  simp

theorem cutPrefix_append (pre y : Bytes) : cutPrefix (pre ++ y) pre = some y := by
  simp [cutPrefix]

theorem cutPrefix_some {s pre r : Bytes} (h : cutPrefix s pre = some r) : s = pre ++ r := by
  unfold cutPrefix at h
  split at h
  · rename_i ht
    have := List.take_append_drop pre.length s
    rw [ht, Option.some.inj h] at this
    exact this.symm
  · cases h

theorem cutPrefix_head_ne (a r s : Bytes) {c d : UInt8} (h : c ≠ d) : cutPrefix (a ++ c :: r) (a ++ d :: s) = none := by
  rw [cutPrefix, if_neg]
  rw [List.length_append, List.take_length_add_append]
  intro hc
  have := List.append_cancel_left hc
  simp at this
  exact h this.1

theorem cutPrefix_none_of_append {a x pre : Bytes} (h : cutPrefix (a ++ x) pre = none) : cutPrefix a pre = none := by
  cases hc : cutPrefix a pre with
  | none => rfl
  | some r => rw [cutPrefix_some hc, List.append_assoc, cutPrefix_append] at h; cases h

theorem trimPrefix_append (pre y : Bytes) : trimPrefix (pre ++ y) pre = y := by
  simp [trimPrefix, cutPrefix_append]

theorem trimPrefix_x (s : Bytes) : trimPrefix (120 :: s) (ascii "x") = s := trimPrefix_append [120] s

theorem trimPrefix_nox {s : Bytes} (h : (120 : UInt8) ∉ s) : trimPrefix s (ascii "x") = s := by
  cases s with
  | nil => rfl
  | cons c cs =>
    have : c ≠ 120 := fun hc => h (by simp [hc])
    simp [trimPrefix, cutPrefix, ascii, this]

theorem digit_isDigit (n : Nat) : isDigit (digit n) = true := by
  have : ∀ k : Fin 10, isDigit (UInt8.ofNat (48 + k.val)) = true := by decide
  exact this ⟨n % 10, Nat.mod_lt _ (by decide)⟩

theorem digit_val (n : Nat) : (digit n).toNat - 48 = n % 10 := by
  have : ∀ k : Fin 10, (UInt8.ofNat (48 + k.val)).toNat - 48 = k.val := by decide
  exact this ⟨n % 10, Nat.mod_lt _ (by decide)⟩

theorem natDigits_digits (fuel n : Nat) : (natDigits fuel n).all isDigit = true := by
  induction fuel generalizing n with
  | zero => rfl
  | succ f ih =>
    simp only [natDigits]
    split
    · simp [digit_isDigit]
    · simp [List.all_append, ih, digit_isDigit]

theorem digitsVal_append (l : Bytes) (d : UInt8) (acc : Nat) :
    digitsVal (l ++ [d]) acc = digitsVal l acc * 10 + (d.toNat - 48) := by
  induction l generalizing acc with
  | nil => simp [digitsVal]
  | cons b bs ih => simp [digitsVal, ih]

theorem digitsVal_natDigits (fuel n : Nat) (h : n < 10 ^ fuel) : digitsVal (natDigits fuel n) 0 = n := by
  induction fuel generalizing n with
  | zero => simp at h; subst h; rfl
  | succ f ih =>
    simp only [natDigits]
    split
    · simp only [digitsVal, Nat.zero_mul, Nat.zero_add, digit_val]
      omega
    · rw [digitsVal_append, ih (n / 10) (by rw [Nat.pow_succ] at h; omega), digit_val]
      omega

theorem natDigits_length (fuel n k : Nat) (h : n < 10 ^ (k + 1)) : (natDigits fuel n).length ≤ k + 1 := by
  induction fuel generalizing n k with
  | zero => simp [natDigits]
  | succ f ih =>
    simp only [natDigits]
    split
    · simp
    · cases k with
      | zero => omega
      | succ k =>
        have := ih (n / 10) k (by rw [Nat.pow_succ] at h; omega)
        simp; omega

theorem fmtNat_digits (n : Nat) : (fmtNat n).all isDigit = true := natDigits_digits _ _

theorem fmtNat_ne_nil (n : Nat) : fmtNat n ≠ [] := by
  simp only [fmtNat, natDigits]
  split <;> simp

theorem fmtNat_val (n : Nat) : digitsVal (fmtNat n) 0 = n :=
  digitsVal_natDigits _ _ (Nat.lt_of_lt_of_le (Nat.lt_pow_self (by decide)) (Nat.pow_le_pow_right (by decide) (Nat.le_succ n)))

theorem padLeft_val (w : Nat) (s : Bytes) : digitsVal (padLeft w s) 0 = digitsVal s 0 := by
  unfold padLeft
  induction w - s.length with
  | zero => rfl
  | succ k ih => exact ih

theorem padLeft_digits (w : Nat) {s : Bytes} (h : s.all isDigit = true) : (padLeft w s).all isDigit = true := by
  rw [padLeft, List.all_append, h, Bool.and_true, List.all_eq_true]
  intro c hc
  rw [List.eq_of_mem_replicate hc]
  rfl

theorem atoi_digits (s : Bytes) (hne : s ≠ []) (hd : s.all isDigit = true) (hv : digitsVal s 0 ≤ 9223372036854775807) :
    atoi s = some ((digitsVal s 0 : Nat) : Int) := by
  cases s with
  | nil => exact absurd rfl hne
  | cons c rest =>
    have hc : isDigit c = true := by simp [List.all_cons] at hd; exact hd.1
    have e45 : (c == 45) = false := by simpa using ne_of_isDigit hc (d := 45) (by decide)
    have e43 : (c == 43) = false := by simpa using ne_of_isDigit hc (d := 43) (by decide)
    simp only [atoi, e45, e43, Bool.or_self, Bool.false_eq_true, if_false, hd, Bool.not_true, reduceCtorEq]
    simp [hv]

theorem atoi_minus_digits (s : Bytes) (hne : s ≠ []) (hd : s.all isDigit = true) (hv : digitsVal s 0 ≤ 9223372036854775808) :
    atoi (45 :: s) = some (-((digitsVal s 0 : Nat) : Int)) := by
  simp [atoi, hne, hd, hv]

theorem atoi_fmtNat (n : Nat) (h : n ≤ 9223372036854775807) : atoi (fmtNat n) = some (n : Int) := by
  have := atoi_digits (fmtNat n) (fmtNat_ne_nil n) (fmtNat_digits n) (by rw [fmtNat_val]; exact h)
  rwa [fmtNat_val] at this

theorem atoi_range (s : Bytes) (v : Int) (h : atoi s = some v) :
    -9223372036854775808 ≤ v ∧ v ≤ 9223372036854775807 := by
  cases s with
  | nil => simp [atoi] at h
  | cons c rest =>
    simp only [atoi] at h
    repeat' split at h
    all_goals first
      | (cases h; done)
      | (simp only [Option.some.injEq] at h; subst h; simp only [Int.ofNat_eq_natCast]; omega)

theorem fmtInt_nonneg {x : Int} (h : 0 ≤ x) : fmtInt x = fmtNat x.toNat := by
  unfold fmtInt
  rw [if_neg (by omega)]
  congr 1
  omega

theorem atoi_fmtInt {x : Int} (h0 : 0 ≤ x) (h1 : x ≤ 9223372036854775807) : atoi (fmtInt x) = some x := by
  rw [fmtInt_nonneg h0, atoi_fmtNat _ (by omega)]
  congr 1
  exact Int.toNat_of_nonneg h0

theorem fmtInt_digits {x : Int} (h0 : 0 ≤ x) : (fmtInt x).all isDigit = true := fmtInt_nonneg h0 ▸ fmtNat_digits _

theorem fmtInt_ne_nil {x : Int} (h0 : 0 ≤ x) : fmtInt x ≠ [] := fmtInt_nonneg h0 ▸ fmtNat_ne_nil _

/-! ### three-digit groups -/

theorem atoi_fmt03 {m : Int} (h0 : -9223372036854775808 ≤ m) (h1 : m ≤ 9223372036854775807) : atoi (fmt03 m) = some m := by
  have hv (w : Nat) : digitsVal (padLeft w (fmtNat m.natAbs)) 0 = m.natAbs := by rw [padLeft_val, fmtNat_val]
  have hne (w : Nat) : padLeft w (fmtNat m.natAbs) ≠ [] := by simp [padLeft, fmtNat_ne_nil]
  unfold fmt03
  split
  · rw [atoi_minus_digits _ (hne _) (padLeft_digits _ (fmtNat_digits _)) (by rw [hv]; omega), hv]
    congr 1; omega
  · rw [atoi_digits _ (hne _) (padLeft_digits _ (fmtNat_digits _)) (by rw [hv]; omega), hv]
    congr 1; omega

theorem fmt03_mem {m : Int} {c : UInt8} (h : c ∈ fmt03 m) : c = 45 ∨ isDigit c = true := by
  unfold fmt03 at h
  split at h
  · exact (List.mem_cons.mp h).imp_right (List.all_eq_true.mp (padLeft_digits _ (fmtNat_digits _)) c)
  · exact Or.inr (List.all_eq_true.mp (padLeft_digits _ (fmtNat_digits _)) c h)

theorem fmt03_ne_nil (x : Int) : fmt03 x ≠ [] := by
  unfold fmt03 padLeft
  split
  · simp
  · simp [fmtNat_ne_nil]

theorem group_not_mem {m : Int} {g : Bytes} (hg : g = fmt03 m ∨ g = 120 :: fmt03 m) {c : UInt8}
    (h45 : c ≠ 45) (h120 : c ≠ 120) (hd : isDigit c = false) : c ∉ g := by
  intro hm
  have : c ∈ fmt03 m := by
    rcases hg with rfl | rfl
    · exact hm
    · exact (List.mem_cons.mp hm).resolve_left h120
  exact digitOrMinus_ne (fmt03_mem this) h45 hd rfl

theorem wrap64_id {x : Int} (h0 : -9223372036854775808 ≤ x) (h1 : x ≤ 9223372036854775807) : wrap64 x = x := by
  unfold wrap64; omega

theorem parseN_group {m : Int} {g : Bytes} (hg : g = fmt03 m ∨ g = 120 :: fmt03 m)
    (h0 : -9223372036854775808 ≤ m) (h1 : m ≤ 9223372036854775807) (rest : List Bytes) (n : Int) :
    parseN (g :: rest) n = if m < 0 ∨ m ≥ 1000 then none else parseN rest (wrap64 (n * 1000 + m)) := by
  have : trimPrefix g (ascii "x") = fmt03 m := by
    rcases hg with rfl | rfl
    · exact trimPrefix_nox fun h => (fmt03_mem h).elim (by decide) (by decide)
    · exact trimPrefix_x _
  simp only [parseN, this, atoi_fmt03 h0 h1, pathBase]

theorem nStrLoop_struct (fuel : Nat) : ∀ (n : Int) (acc : Bytes),
    ∃ G : List Bytes, nStrLoop fuel n acc = joinSlash (G ++ [acc]) ∧
      (∀ g ∈ G, ∃ m : Int, g = 120 :: fmt03 m) ∧
      (n < 1000 ^ (fuel + 1) → n ≤ 9223372036854775807 →
        ∀ rest, parseN (G ++ rest) 0 = parseN rest (if 0 ≤ n then n / 1000 else 0)) := by
  have small (n : Int) (h : n < 1000) (rest : List Bytes) :
      parseN ([] ++ rest) 0 = parseN rest (if 0 ≤ n then n / 1000 else 0) := by
    split
    · rw [show n / 1000 = 0 by omega]; rfl
    · rfl
  induction fuel with
  | zero => exact fun n acc => ⟨[], rfl, by simp, fun h1 _ => small n (by omega)⟩
  | succ fuel ih =>
    intro n acc
    by_cases hn : n ≥ 1000
    · obtain ⟨G, hG, hGp, hGn⟩ := ih (n / 1000) (120 :: fmt03 (n / 1000 % 1000) ++ 47 :: acc)
      refine ⟨G ++ [120 :: fmt03 (n / 1000 % 1000)], ?_, ?_, fun h1 h2 rest => ?_⟩
      · have : goMod (n / 1000) 1000 = n / 1000 % 1000 := if_pos (by omega)
        simp only [nStrLoop, pathBase, hn, if_true, this]
        rw [hG, List.append_assoc]
        exact joinSlash_flatten G (T := [_, acc]) (by simp)
      · intro g hg
        rcases List.mem_append.mp hg with hg | hg
        · exact hGp g hg
        · exact ⟨_, List.mem_singleton.mp hg⟩
      · rw [List.append_assoc, hGn (by rw [Int.pow_succ] at h1; omega) (by omega), if_pos (by omega), if_pos (by omega),
          List.singleton_append, parseN_group (Or.inr rfl) (by omega) (by omega), if_neg (by omega),
          wrap64_id (by omega) (by omega)]
        congr 1
        omega
    · exact ⟨[], by simp [nStrLoop, pathBase, hn, joinSlash], by simp, fun _ _ => small n (by omega)⟩

/-- `G` are the x-groups `Tile.Path` writes for the index `n`, and `ParseTilePath`'s loop reads them back as `n / 1000`.
`Path` formats a negative `n` too, with no x-group: hence the `else 0` -/
structure XGroups (n : Int) (G : List Bytes) : Prop where
  shape : ∀ g ∈ G, ∃ m : Int, g = 120 :: fmt03 m
  parse : n ≤ 9223372036854775807 → ∀ rest, parseN (G ++ rest) 0 = parseN rest (if 0 ≤ n then n / 1000 else 0)

theorem XGroups.not_mem {n : Int} {G : List Bytes} (h : XGroups n G) {g : Bytes} (hg : g ∈ G) {c : UInt8}
    (h45 : c ≠ 45) (h120 : c ≠ 120) (hd : isDigit c = false) : c ∉ g :=
  let ⟨_, hm⟩ := h.shape g hg
  group_not_mem (Or.inr hm) h45 h120 hd

theorem nStr_struct (n : Int) : ∃ G : List Bytes, nStr n = joinSlash (G ++ [fmt03 (goMod n 1000)]) ∧ XGroups n G := by
  obtain ⟨G, h1, h2, h3⟩ := nStrLoop_struct 7 n (fmt03 (goMod n 1000))
  exact ⟨G, h1, h2, fun hn => h3 (by omega) hn⟩

theorem coords_struct (n W full : Int) : ∃ G : List Bytes,
    nStr n ++ (if W ≠ full then ascii ".p" ++ 47 :: fmtInt W else []) =
      joinSlash (G ++ if W = full then [fmt03 (goMod n 1000)] else [fmt03 (goMod n 1000) ++ ascii ".p", fmtInt W]) ∧
    XGroups n G := by
  obtain ⟨G, hG, hx⟩ := nStr_struct n
  refine ⟨G, ?_, hx⟩
  rw [hG]
  by_cases hw : W = full
  · rw [if_neg (fun h => h hw), if_pos hw, List.append_nil]
  · rw [if_pos hw, if_neg hw, joinSlash_append_last, ← List.append_assoc]
    exact joinSlash_flatten G (T := [_, _]) (by simp)

/-! ### `ParseTilePath` on the output of `Tile.Path` -/

theorem shl1_bounds {h : Int} (h1 : 1 ≤ h) (h30 : h ≤ 30) : 2 ≤ shl1 h ∧ shl1 h ≤ 1073741824 := by
  rw [shl1, if_pos (by omega)]
  have a := Nat.pow_le_pow_right (n := 2) (by decide) (show 1 ≤ h.toNat by omega)
  have b := Nat.pow_le_pow_right (n := 2) (by decide) (show h.toNat ≤ 30 by omega)
  have : ((2 ^ h.toNat : Nat) : Int) = (2 : Int) ^ h.toNat := by simp
  omega

def levelStr (l : Int) : Bytes := if l = -1 then ascii "data" else fmtInt l

theorem levelStr_cases (l : Int) (h : -1 ≤ l) :
    levelStr l = ascii "data" ∨ ((levelStr l).all isDigit = true ∧ levelStr l ≠ []) := by
  unfold levelStr
  split
  · exact Or.inl rfl
  · exact Or.inr ⟨fmtInt_digits (by omega), fmtInt_ne_nil (by omega)⟩

theorem levelStr_not_mem {l : Int} (h : -1 ≤ l) {c : UInt8} (hd : isDigit c = false) (hc : c ∉ ascii "data") :
    c ∉ levelStr l := by
  rcases levelStr_cases l h with h | h
  · rwa [h]
  · exact not_mem_of_all h.1 hd

theorem levelStr_eq_data {l : Int} (h : -1 ≤ l) : levelStr l = ascii "data" ↔ l = -1 := by
  refine ⟨fun hd => Classical.byContradiction fun hl => ?_, fun hl => if_pos hl⟩
  rw [levelStr, if_neg hl] at hd
  exact not_mem_of_all (fmtInt_digits (x := l) (by omega)) (c := 100) (by decide) (by rw [hd]; decide)

/-- the `if`s are `ParseTilePath`'s replacement of `data` by `0` before `Atoi`, and its way back to level −1 after it -/
theorem levelStr_read {l : Int} (hl : -1 ≤ l ∧ l ≤ 9223372036854775807) : ∃ lval : Int,
    atoi (if levelStr l = ascii "data" then ascii "0" else levelStr l) = some lval ∧ 0 ≤ lval ∧
    hasSuffix (if levelStr l = ascii "data" then ascii "0" else levelStr l) (ascii ".p") = false ∧
    (if levelStr l = ascii "data" then -1 else lval) = l := by
  simp only [levelStr_eq_data hl.1]
  by_cases h : l = -1
  · exact ⟨0, by rw [if_pos h]; decide, by decide, by rw [if_pos h]; decide, by rw [if_pos h, h]⟩
  · rw [if_neg h, levelStr, if_neg h]
    exact ⟨l, atoi_fmtInt (by omega) hl.2, by omega,
      hasSuffix_false (c := 112) (by decide) (not_mem_of_all (fmtInt_digits (by omega)) (by decide)), if_neg h⟩

/-- the list plumbing of the parser, for any last group `e` and any groups `G` none of which ends in `.p` (`hG`): nothing
else here depends on what `Tile.Path` puts in them -/
theorem prelim_of_split {path e : Bytes} {G : List Bytes} {h L w : Int}
    (hh : 1 ≤ h ∧ h ≤ 30) (hL : -1 ≤ L ∧ L ≤ 9223372036854775807) (hw : w = shl1 h ∨ (0 < w ∧ w < shl1 h))
    (hsplit : split 47 path = ascii "tile" :: fmtInt h :: levelStr L ::
      (G ++ if w = shl1 h then [e] else [e ++ ascii ".p", fmtInt w]))
    (hG : ∀ g ∈ G, hasSuffix g (ascii ".p") = false) :
    tlogParsePrelim path = (parseN (G ++ [e]) 0).map fun n => { H := h, L := L, N := n, W := w } := by
  have hh1 : atoi (fmtInt h) = some h := atoi_fmtInt (by omega) (by omega)
  obtain ⟨lval, hl0, hlv, hsuf, hLv⟩ := levelStr_read hL
  -- `f2` and `tailE` stand for two `if`s, so that the `simp only`s below take them as atoms
  generalize hf2 : (if levelStr L = ascii "data" then ascii "0" else levelStr L) = f2 at hl0 hsuf
  generalize htl : (if w = shl1 h then [e] else [e ++ ascii ".p", fmtInt w]) = tailE at hsplit
  have hlen : ¬ ((ascii "tile" :: fmtInt h :: levelStr L :: (G ++ tailE)).length < 4 ∨
      (ascii "tile" :: fmtInt h :: levelStr L :: (G ++ tailE)).getD 0 [] ≠ ascii "tile") := by
    have : 0 < tailE.length := by rw [← htl]; split <;> simp
    simp only [List.length_cons, List.length_append, List.getD_cons_zero, ne_eq, not_true_eq_false, or_false]
    omega
  have hfset : (if (ascii "tile" :: fmtInt h :: levelStr L :: (G ++ tailE)).getD 2 [] = ascii "data"
        then (ascii "tile" :: fmtInt h :: levelStr L :: (G ++ tailE)).set 2 (ascii "0")
        else ascii "tile" :: fmtInt h :: levelStr L :: (G ++ tailE)) = ascii "tile" :: fmtInt h :: f2 :: (G ++ tailE) := by
    rw [← hf2]; by_cases hd : levelStr L = ascii "data" <;> simp [hd]
  unfold tlogParsePrelim
  simp only [hsplit]
  rw [if_neg hlen]
  simp only [hfset]
  simp only [List.getD_cons_succ, List.getD_cons_zero, hh1, hl0, hLv]
  rw [if_neg (by omega)]
  -- the second-to-last element when there is no width element: the last of `f2 :: G`
  obtain ⟨d, before, hdb, hds⟩ : ∃ d before, (f2 :: G).reverse = d :: before ∧ hasSuffix d (ascii ".p") = false := by
    cases hr : (f2 :: G).reverse with
    | nil => simp at hr
    | cons d before =>
      refine ⟨d, before, rfl, ?_⟩
      rcases List.mem_cons.mp (List.mem_reverse.mp (hr ▸ List.mem_cons_self)) with rfl | hd
      · exact hsuf
      · exact hG d hd
  have hrev (l : List Bytes) :
      (ascii "tile" :: fmtInt h :: f2 :: (G ++ l)).reverse = l.reverse ++ d :: (before ++ [fmtInt h, ascii "tile"]) := by
    rw [← List.cons_append, ← List.cons_append, ← List.cons_append, List.reverse_append, List.reverse_cons, List.reverse_cons,
      hdb]
    simp
  subst htl
  by_cases hwf : w = shl1 h
  · simp only [if_pos hwf, hrev, List.reverse_cons, List.reverse_nil, List.nil_append, List.singleton_append, hds,
      Bool.false_eq_true, if_false, List.drop_succ_cons, List.drop_zero]
    cases parseN (G ++ [e]) 0 <;> simp [hwf]
  · have hws : atoi (fmtInt w) = some w := atoi_fmtInt (by omega) (by have := shl1_bounds hh.1 hh.2; omega)
    have htake : (e ++ ascii ".p").take ((e ++ ascii ".p").length - 2) = e := take_append_sub_length e (ascii ".p")
    have hback : (e :: d :: (before ++ [fmtInt h, ascii "tile"])).reverse = ascii "tile" :: fmtInt h :: f2 :: (G ++ [e]) := by
      rw [← List.reverse_inj, List.reverse_reverse, hrev]; rfl
    simp only [if_neg hwf, hrev, List.reverse_cons, List.reverse_nil, List.nil_append,
      List.cons_append, hasSuffix_append, if_true, hws, if_neg (show ¬ (w ≤ 0 ∨ w ≥ shl1 h) by omega), htake, hback,
      List.drop_succ_cons, List.drop_zero]
    cases parseN (G ++ [e]) 0 <;> rfl

theorem tlogPath_eq (t : Tile) :
    tlogPath t = ascii "tile" ++ 47 :: (fmtInt t.H ++ 47 :: (levelStr t.L ++ 47 ::
      (nStr t.N ++ (if t.W ≠ shl1 t.H then ascii ".p" ++ 47 :: fmtInt t.W else [])))) := by
  have ht : ascii "tile/" = ascii "tile" ++ [47] := by decide
  have hp : ascii ".p/" = ascii ".p" ++ [47] := by decide
  unfold tlogPath levelStr
  rw [ht, hp]
  split <;> simp

/-- no `0 ≤ t.N` here: `tlogParse_iff` applies this to a negative `N`, to see what the parser makes of its last group -/
theorem prelim_tlogPath (t : Tile) (hH : 1 ≤ t.H ∧ t.H ≤ 30) (hL : -1 ≤ t.L ∧ t.L ≤ 9223372036854775807)
    (hW : 1 ≤ t.W ∧ t.W ≤ shl1 t.H) (hN : t.N ≤ 9223372036854775807) :
    tlogParsePrelim (tlogPath t) =
      (parseN [fmt03 (goMod t.N 1000)] (if 0 ≤ t.N then t.N / 1000 else 0)).map fun n => { t with N := n } := by
  obtain ⟨G, hco, hx⟩ := coords_struct t.N t.W (shl1 t.H)
  generalize he : fmt03 (goMod t.N 1000) = e at hco ⊢
  have he_noslash : (47 : UInt8) ∉ e := group_not_mem (Or.inl he.symm) (by decide) (by decide) (by decide)
  have hh2 := fmtInt_digits (x := t.H) (by omega)
  have hw2 := fmtInt_digits (x := t.W) (by omega)
  have hsplit : split 47 (tlogPath t) = ascii "tile" :: fmtInt t.H :: levelStr t.L ::
      (G ++ if t.W = shl1 t.H then [e] else [e ++ ascii ".p", fmtInt t.W]) := by
    have hne : (G ++ if t.W = shl1 t.H then [e] else [e ++ ascii ".p", fmtInt t.W]) ≠ [] := by split <;> simp
    rw [tlogPath_eq t, hco, ← joinSlash_cons _ hne, ← joinSlash_cons _ (by simp), ← joinSlash_cons _ (by simp)]
    refine split_joinSlash (by simp) ?_
    simp only [List.forall_mem_cons, List.forall_mem_append]
    refine ⟨by decide, not_mem_of_all hh2 (by decide), levelStr_not_mem hL.1 (by decide) (by decide),
      fun g hg => hx.not_mem hg (by decide) (by decide) (by decide), ?_⟩
    split
    · simpa using he_noslash
    · simpa using ⟨⟨he_noslash, by decide⟩, not_mem_of_all hw2 (by decide)⟩
  rw [prelim_of_split hH hL (by omega) hsplit
    (fun g hg => hasSuffix_false (c := 112) (by decide) (hx.not_mem hg (by decide) (by decide) (by decide))), hx.parse hN]

/-! ### what `ParseTilePath` accepts -/

theorem parseN_range (l : List Bytes) (a n : Int) (ha : -9223372036854775808 ≤ a ∧ a ≤ 9223372036854775807)
    (h : parseN l a = some n) : -9223372036854775808 ≤ n ∧ n ≤ 9223372036854775807 := by
  induction l generalizing a with
  | nil => simp only [parseN, Option.some.injEq] at h; subst h; exact ha
  | cons s rest ih =>
    simp only [parseN] at h
    split at h
    · cases h
    · split at h
      · cases h
      · exact ih _ (by unfold wrap64; omega) h

theorem prelim_bounds (q : Bytes) (t : Tile) (h : tlogParsePrelim q = some t) :
    1 ≤ t.H ∧ t.H ≤ 30 ∧ -1 ≤ t.L ∧ t.L ≤ 9223372036854775807 ∧
    (t.W = shl1 t.H ∨ (0 < t.W ∧ t.W < shl1 t.H)) ∧
    -9223372036854775808 ≤ t.N ∧ t.N ≤ 9223372036854775807 := by
  unfold tlogParsePrelim at h
  simp only at h
  split at h
  · cases h
  · split at h
    · rename_i hv lv hh hl
      split at h
      · cases h
      · rename_i hb
        split at h
        · split at h
          · cases h
          · rename_i w f' hwf
            split at h
            · cases h
            · rename_i n hn
              simp only [Option.some.injEq] at h
              subst h
              have hnr := parseN_range _ 0 n (by omega) hn
              have hlr := (atoi_range _ _ hl).2
              have hW : w = shl1 hv ∨ (0 < w ∧ w < shl1 hv) := by
                split at hwf
                · split at hwf
                  · cases hwf
                  · split at hwf
                    · cases hwf
                    · cases hwf
                      right; omega
                · cases hwf
                  exact Or.inl rfl
              dsimp only
              refine ⟨by omega, by omega, ?_, ?_, hW, hnr.1, hnr.2⟩
              · split <;> omega
              · split <;> omega
        · cases h
    · cases h

/-- the tiles `tlog.ParseTilePath` returns -/
structure Valid (t : Tile) : Prop where
  H_pos : 1 ≤ t.H
  H_le : t.H ≤ 30
  L_ge : -1 ≤ t.L
  L_le : t.L ≤ 9223372036854775807
  N_nonneg : 0 ≤ t.N
  N_le : t.N ≤ 9223372036854775807
  W_pos : 1 ≤ t.W
  W_le : t.W ≤ shl1 t.H

/-- `tlog.ParseTilePath` is the exact inverse of `Tile.Path` on the valid tiles. `0 ≤ t.N` is due to the final re-check
`path != t.Path()`: for an `N` that wrapped around to a negative number `Path` writes a last group that is negative or
`000`, which the parser refuses or reads back as 0 -/
theorem tlogParse_iff {q : Bytes} {t : Tile} : tlogParse q = some t ↔ q = tlogPath t ∧ Valid t := by
  -- for the `omega`s below that bound `goMod t.N 1000`
  have hg : -1000 < goMod t.N 1000 ∧ goMod t.N 1000 ≤ 0 ∨ 0 ≤ t.N ∧ goMod t.N 1000 = t.N % 1000 := by
    unfold goMod; split <;> omega
  constructor
  · intro h
    obtain ⟨hp, rfl⟩ : tlogParsePrelim q = some t ∧ q = tlogPath t := by
      unfold tlogParse at h
      split at h
      · cases h
      · rename_i t' ht'
        split at h
        · cases h
        · rename_i hq
          cases h
          exact ⟨ht', by simpa using hq⟩
    obtain ⟨hH0, hH1, hL0, hL1, hWs, hN0, hN1⟩ := prelim_bounds _ t hp
    have hW : 1 ≤ t.W ∧ t.W ≤ shl1 t.H := by have := shl1_bounds hH0 hH1; omega
    refine ⟨rfl, hH0, hH1, hL0, hL1, Int.not_lt.mp fun hn => ?_, hN1, hW.1, hW.2⟩
    rw [prelim_tlogPath t ⟨hH0, hH1⟩ ⟨hL0, hL1⟩ hW hN1, if_neg (Int.not_le.mpr hn),
      parseN_group (Or.inl rfl) (by omega) (by omega)] at hp
    split at hp
    · cases hp
    · have : wrap64 (0 * 1000 + goMod t.N 1000) = t.N := congrArg Tile.N (Option.some.inj hp)
      rw [wrap64_id (by omega) (by omega)] at this
      omega
  · rintro ⟨rfl, v⟩
    have hN0 := v.N_nonneg
    have hN1 := v.N_le
    have hm : goMod t.N 1000 = t.N % 1000 := if_pos hN0
    rw [tlogParse, prelim_tlogPath t ⟨v.H_pos, v.H_le⟩ ⟨v.L_ge, v.L_le⟩ ⟨v.W_pos, v.W_le⟩ hN1, hm,
      parseN_group (Or.inl rfl) (by omega) (by omega), if_pos hN0, if_neg (by omega), wrap64_id (by omega) (by omega),
      show t.N / 1000 * 1000 + t.N % 1000 = t.N by omega]
    simp [parseN]

/-! ### height-8 tiles -/

theorem shl1_8 : shl1 8 = 256 := by decide

/-- what follows `tile/8/<level>/` in a path -/
def nwPart (t : Tile) : Bytes := nStr t.N ++ (if t.W ≠ 256 then ascii ".p" ++ 47 :: fmtInt t.W else [])

theorem nwPart_full {t : Tile} (hw : t.W = 256) : nwPart t = nStr t.N := by simp [nwPart, hw]

theorem nwPart_partial {t : Tile} (hw : t.W ≠ 256) : nwPart t = nStr t.N ++ 46 :: (ascii "p/" ++ fmtInt t.W) := by
  rw [nwPart, if_pos hw]; rfl

theorem tlogPath_prefix (t : Tile) (hH : t.H = 8) :
    tlogPath t = ascii "tile/8/" ++ (levelStr t.L ++ 47 :: nwPart t) := by
  have : ascii "tile/8/" = ascii "tile" ++ 47 :: (fmtInt 8 ++ [47]) := by decide
  rw [tlogPath_eq t, hH, shl1_8, this]
  simp [nwPart]

theorem tlogPath_prefix_data (t : Tile) (hH : t.H = 8) (hL : t.L = -1) :
    tlogPath t = ascii "tile/8/data/" ++ nwPart t := by
  have : ascii "tile/8/data/" = ascii "tile/8/" ++ (ascii "data" ++ [47]) := by decide
  rw [tlogPath_prefix t hH, levelStr, if_pos hL, this]
  simp

theorem height_of_prefix {t : Tile} {rest : Bytes} (hH : 0 ≤ t.H ∧ t.H ≤ 9223372036854775807)
    (h : tlogPath t = ascii "tile/8/" ++ rest) : t.H = 8 := by
  have a1 := atoi_fmtInt hH.1 hH.2
  have a2 := fmtInt_digits hH.1
  rw [tlogPath_eq, show ascii "tile/8/" = ascii "tile" ++ 47 :: (ascii "8" ++ [47]) by decide, List.append_assoc,
    List.cons_append, List.append_assoc, List.singleton_append] at h
  rw [(append_cons_inj (not_mem_of_all a2 (by decide)) (by decide) (List.cons.inj (List.append_cancel_left h)).2).1] at a1
  exact (Option.some.inj a1).symm

/-- what every parser of height-8 paths checks besides the level -/
structure Dom8 (t : Tile) : Prop where
  H : t.H = 8
  N_nonneg : 0 ≤ t.N
  N_le : t.N ≤ 9223372036854775807
  W_pos : 1 ≤ t.W
  W_le : t.W ≤ 256

theorem Dom8.setL {t : Tile} (h : Dom8 t) (l : Int) : Dom8 { t with L := l } := ⟨h.H, h.N_nonneg, h.N_le, h.W_pos, h.W_le⟩

theorem Dom8.full {t : Tile} (h : Dom8 t) : Dom8 { t with W := 256 } := ⟨h.H, h.N_nonneg, h.N_le, by simp, by simp⟩

theorem tileDom_iff {t : Tile} : TileDom t ↔ Dom8 t ∧ -2 ≤ t.L ∧ t.L ≤ 9223372036854775807 :=
  ⟨fun ⟨hH, hL0, hL1, hN0, hN1, hW0, hW1⟩ => ⟨⟨hH, hN0, hN1, hW0, hW1⟩, hL0, hL1⟩,
    fun ⟨⟨hH, hN0, hN1, hW0, hW1⟩, hL0, hL1⟩ => ⟨hH, hL0, hL1, hN0, hN1, hW0, hW1⟩⟩

/-- sunlight and torchwood call `tlog.ParseTilePath` with `tile/8/` put in front of what follows their own prefix -/
theorem tlogParse_tile8 {rest : Bytes} {t : Tile} : tlogParse (ascii "tile/8/" ++ rest) = some t ↔
    rest = levelStr t.L ++ 47 :: nwPart t ∧ Dom8 t ∧ -1 ≤ t.L ∧ t.L ≤ 9223372036854775807 := by
  rw [tlogParse_iff]
  constructor
  · rintro ⟨hq, v⟩
    have hH := height_of_prefix ⟨by have := v.H_pos; omega, by have := v.H_le; omega⟩ hq.symm
    rw [tlogPath_prefix t hH] at hq
    exact ⟨List.append_cancel_left hq, ⟨hH, v.N_nonneg, v.N_le, v.W_pos, by simpa [hH, shl1_8] using v.W_le⟩, v.L_ge, v.L_le⟩
  · rintro ⟨rfl, d, hL0, hL1⟩
    exact ⟨(tlogPath_prefix t d.H).symm, by rw [d.H]; decide, by rw [d.H]; decide, hL0, hL1, d.N_nonneg, d.N_le, d.W_pos,
      by rw [d.H, shl1_8]; exact d.W_le⟩

theorem tlogParse_data {rest : Bytes} {t : Tile} :
    tlogParse (ascii "tile/8/data/" ++ rest) = some t ↔ rest = nwPart t ∧ Dom8 t ∧ t.L = -1 := by
  have e : ascii "tile/8/data/" ++ rest = ascii "tile/8/" ++ (ascii "data" ++ 47 :: rest) := by
    rw [show ascii "tile/8/data/" = ascii "tile/8/" ++ (ascii "data" ++ [47]) by decide]; simp
  rw [e, tlogParse_tile8]
  constructor
  · rintro ⟨h, d, hL, _⟩
    obtain ⟨h1, h2⟩ := append_cons_inj (by decide) (levelStr_not_mem hL (by decide) (by decide)) h
    exact ⟨h2, d, (levelStr_eq_data hL).mp h1.symm⟩
  · rintro ⟨rfl, d, hL⟩
    exact ⟨by rw [levelStr, if_pos hL], d, by omega, by omega⟩

end TilePath
