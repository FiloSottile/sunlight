import Proofs.SeqRecover
/-! The recovery run of the sequencer model: from a reachable untampered state in which a checkpoint has
been published, a fault-free `LoadLog` of an instance that is down is accepted event by event and ends
`loaded` on the lock checkpoint with every required tile present — provided the checkpoint object
already has the lock checkpoint's leaves or the lock tree's bundle is still staged
(`recover_run_partial`). Without that proviso the statement is false (publication regression followed
by a discard, see `Seq.Cex`). -/
namespace Seq

/-- what a recovery of instance `i` leaves untouched -/
structure Fr (i : Nat) (s s' : Sys) : Prop where
  lock : s'.lock = s.lock
  lockHist : s'.lockHist = s.lockHist
  pubHist : s'.pubHist = s.pubHist
  tampered : s'.tampered = s.tampered
  others : ∀ j, j ≠ i → s'.insts j = s.insts j
  cfg : (s'.insts i).cfgBad = (s.insts i).cfgBad
  ev : (s.insts i).evictPending = false → (s'.insts i).evictPending = false
  keys : ∀ k, (∀ t, k ≠ .tile t) → s'.store k = s.store k
  tileLe : TileLe s.store s'.store

theorem Fr.refl (i : Nat) (s : Sys) : Fr i s s :=
  ⟨rfl, rfl, rfl, rfl, fun _ _ => rfl, rfl, fun h => h, fun _ _ => rfl, TileLe.refl _⟩

theorem Fr.trans {i : Nat} {s1 s2 s3 : Sys} (a : Fr i s1 s2) (b : Fr i s2 s3) : Fr i s1 s3 where
  lock := b.lock.trans a.lock
  lockHist := b.lockHist.trans a.lockHist
  pubHist := b.pubHist.trans a.pubHist
  tampered := b.tampered.trans a.tampered
  others := fun j hj => (b.others j hj).trans (a.others j hj)
  cfg := b.cfg.trans a.cfg
  ev := fun h => b.ev (a.ev h)
  keys := fun k hk => (b.keys k hk).trans (a.keys k hk)
  tileLe := fun t o h => b.tileLe t o (a.tileLe t o h)

theorem fr_setInst (s : Sys) (i : Nat) (x : Inst) (hcfg : x.cfgBad = (s.insts i).cfgBad)
    (hev : (s.insts i).evictPending = false → x.evictPending = false) : Fr i s (s.setInst i x) := by
  refine ⟨rfl, rfl, rfl, rfl, ?_, ?_, ?_, fun _ _ => rfl, TileLe.refl _⟩
  · intro j hj; simp [Sys.setInst, upd, hj]
  · simpa [Sys.setInst, upd] using hcfg
  · simpa [Sys.setInst, upd] using hev

theorem fr_setPhase (s : Sys) (i : Nat) (p : Phase) : Fr i s (setPhase s i p) :=
  fr_setInst s i _ rfl id

structure LoadRun (i : Nat) (s : Sys) (es : List Ev) (s' : Sys) : Prop where
  run : Seq.run s es = some s'
  fr : Fr i s s'

theorem LoadRun.nil (i : Nat) (s : Sys) : LoadRun i s [] s := ⟨rfl, Fr.refl i s⟩

theorem LoadRun.cons {i : Nat} {s s1 s' : Sys} {e : Ev} {es : List Ev} (h : step s e = some s1) (f : Fr i s s1)
    (r : LoadRun i s1 es s') : LoadRun i s (e :: es) s' :=
  ⟨run_cons.2 ⟨s1, h, r.run⟩, f.trans r.fr⟩

theorem LoadRun.phase {i : Nat} {s s' : Sys} {e : Ev} {es : List Ev} {p : Phase}
    (h : step s e = some (setPhase s i p)) (r : LoadRun i (setPhase s i p) es s') : LoadRun i s (e :: es) s' :=
  .cons h (fr_setPhase s i p) r

theorem LoadRun.append {i : Nat} {s s1 s2 : Sys} {a b : List Ev} (ra : LoadRun i s a s1) (rb : LoadRun i s1 b s2) :
    LoadRun i s (a ++ b) s2 :=
  ⟨run_append_some ra.run rb.run, ra.fr.trans rb.fr⟩

/-! ### the single steps of a fault-free load -/

theorem load_launch {s : Sys} {i : Nat} (hdown : (s.insts i).phase = .down) :
    ∃ s1, step s (.launchLoad i) = some s1 ∧ Fr i s s1 ∧ (s1.insts i).phase = .loading .lockFetch ∧
      (s1.insts i).evictPending = false := by
  have hs : step s (.launchLoad i) = some (s.setInst i { s.insts i with
      phase := .loading .lockFetch, pool := [], poolEvicted := [], issuersSeen := [], issuerFailed := false,
      evictPending := false, evictedEver := [] }) := by
    simp only [step, hdown]
  exact ⟨_, hs, fr_setInst s i _ rfl fun _ => rfl, by simp [Sys.setInst, upd], by simp [Sys.setInst, upd]⟩

theorem load_lockFetch {s : Sys} {i : Nat} {c : Ck} (hph : (s.insts i).phase = .loading .lockFetch)
    (hl : s.lock = some c) (hcfg : (s.insts i).cfgBad = false) :
    step s (.lockFetch i (.ok c)) = some (setPhase s i (.loading (.clock1 c))) := by
  simp [step, hph, hl, hcfg, setPhase]

theorem load_clock1 {s : Sys} {i v : Nat} {c : Ck} (hph : (s.insts i).phase = .loading (.clock1 c))
    (hv : c.time ≤ v) :
    step s (.clock i v) = some (setPhase s i (.loading (.ckptFetch c))) := by
  have : ¬ v < c.time := by omega
  simp [step, hph, this, setPhase]

theorem load_ckptFetch {s : Sys} {i : Nat} {c c1 : Ck} {imm : Bool} (hph : (s.insts i).phase = .loading (.ckptFetch c))
    (hst : s.store .ckpt = some (.ck c1, imm)) :
    step s (.fetch i .ckpt (.ok (.ck c1))) = some (setPhase s i (.loading (.clock2 c c1))) := by
  simp [step, hph, hst, setPhase]

theorem load_clock2_eq {s : Sys} {i v : Nat} {c c1 : Ck} (hph : (s.insts i).phase = .loading (.clock2 c c1))
    (hv : c1.time ≤ v) (heq : c1.leaves = c.leaves) :
    step s (.clock i v) = some (setPhase s i (.loading (.edge c false))) := by
  have : ¬ v < c1.time := by omega
  simp [step, hph, this, heq, setPhase]

theorem load_clock2_lt {s : Sys} {i v : Nat} {c c1 : Ck} (hph : (s.insts i).phase = .loading (.clock2 c c1))
    (hv : c1.time ≤ v) (hpre : c1.leaves <+: c.leaves) (hne : c1.leaves ≠ c.leaves) :
    step s (.clock i v) = some (setPhase s i (.loading (.legacy c))) := by
  have h1 : ¬ v < c1.time := by omega
  have hle := hpre.length_le
  have h2 : ¬ c1.leaves.length = c.leaves.length := by
    intro hlen
    exact hne (hpre.eq_of_length hlen)
  have h3 : ¬ c1.leaves.length > c.leaves.length := by omega
  simp [step, hph, h1, h2, h3, setPhase]

theorem load_legacy {s : Sys} {i : Nat} {c : Ck} (hph : (s.insts i).phase = .loading (.legacy c))
    (hst : s.store (.legacyStaging c.leaves) = none) :
    step s (.fetch i (.legacyStaging c.leaves) .nf) = some (setPhase s i (.loading (.stagingFetch c))) := by
  simp [step, hph, hst, setPhase]

theorem load_stagingFetch {s : Sys} {i : Nat} {c : Ck} {items : List (TileId × Tree)} {imm : Bool}
    (hph : (s.insts i).phase = .loading (.stagingFetch c))
    (hst : s.store (.staging c.leaves) = some (.bundle items, imm)) :
    step s (.fetch i (.staging c.leaves) (.ok (.bundle items))) =
      some (setPhase s i (.loading (.apply c items false))) := by
  simp [step, hph, hst, setPhase]

theorem load_edgeFetch {s : Sys} {i : Nat} {c : Ck} {t : TileId} (hph : (s.insts i).phase = .loading (.edge c false))
    (hst : s.store (.tile t) = some (.slice (t.slice c.leaves), true)) (hreq : Req c.leaves.length t = true) :
    step s (.fetch i (.tile t) (.ok (.slice (t.slice c.leaves)))) = some (setPhase s i (.loading (.edge c false))) := by
  simp [step, hph, hst, hreq, setPhase]

theorem load_loaded {s : Sys} {i : Nat} {c : Ck} (hph : (s.insts i).phase = .loading (.edge c false)) :
    step s (.loaded i c) = some (s.setInst i { s.insts i with phase := .idle, tree := c }) := by
  simp [step, hph]

theorem load_apply {s : Sys} {i : Nat} {c : Ck} {t : TileId} {xs : Tree} {rest : List (TileId × Tree)}
    (hph : (s.insts i).phase = .loading (.apply c ((t, xs) :: rest) false))
    (hst : ∀ old, s.store (.tile t) = some (old, true) → old = .slice xs) :
    ∃ s1, step s (.upload i (.tile t) true (.slice xs) .ok) = some s1 ∧ Fr i s s1 ∧
      (s1.insts i).phase = (if (rest.filter (fun p => p.1 != t)).isEmpty then .loading (.edge c false)
        else .loading (.apply c (rest.filter (fun p => p.1 != t)) false)) := by
  have hup := storeUpload_ok hst
  have hfr : ∀ p, Fr i s ({ s with store := updK s.store (.tile t) (some (.slice xs, true)) }.setInst i
      { s.insts i with phase := p }) := fun p =>
    { fr_setPhase s i p with
      keys := fun k hk => by simp [Sys.setInst, updK, hk t]
      tileLe := storeUpload_tileLe hup fun _ _ => rfl }
  by_cases hemp : (rest.filter (fun p => p.1 != t)).isEmpty
  · exact ⟨_, by simp [step, hph, hup, hemp], hfr (.loading (.edge c false)), by simp [Sys.setInst, upd, hemp]⟩
  · exact ⟨_, by simp [step, hph, hup, hemp], hfr (.loading (.apply c (rest.filter (fun p => p.1 != t)) false)),
      by simp [Sys.setInst, upd, hemp]⟩

/-- one upload per remaining bundle item; the model drops every entry with that tile id afterwards
    (`n` is fuel: the length of the list suffices) -/
def applyEvs (i : Nat) : Nat → List (TileId × Tree) → List Ev
  | 0, _ => []
  | _ + 1, [] => []
  | n + 1, (t, xs) :: rest =>
    .upload i (.tile t) true (.slice xs) .ok :: applyEvs i n (rest.filter (fun p => p.1 != t))

def edgeEvs (i : Nat) (c : Ck) (ts : List TileId) : List Ev :=
  ts.map fun t => .fetch i (.tile t) (.ok (.slice (t.slice c.leaves)))

/-- a fault-free load of instance `i`: lock checkpoint `c`, checkpoint object `c1`, clock value `v`,
    the staged bundle to re-apply (if the checkpoint object is behind), right-edge tiles `ts` -/
def recoverScript (i : Nat) (c c1 : Ck) (v : Nat) (items : Option (List (TileId × Tree))) (ts : List TileId) :
    List Ev :=
  [.launchLoad i, .lockFetch i (.ok c), .clock i v, .fetch i .ckpt (.ok (.ck c1)), .clock i v] ++
  (match items with
   | none => []
   | some items =>
     [.fetch i (.legacyStaging c.leaves) .nf, .fetch i (.staging c.leaves) (.ok (.bundle items))] ++
       applyEvs i items.length items) ++
  edgeEvs i c ts ++ [.loaded i c]

def recoverEvs (s : Sys) (i : Nat) (c : Ck) (v : Nat) (ts : List TileId) : List Ev :=
  match s.store .ckpt with
  | some (.ck c1, _) =>
    if c1.leaves = c.leaves then recoverScript i c c1 v none ts
    else (match s.store (.staging c.leaves) with
      | some (.bundle items, _) => recoverScript i c c1 v (some items) ts
      | _ => [])
  | _ => []

theorem applyEvs_nil (i n : Nat) : applyEvs i n [] = [] := by cases n <;> rfl

theorem recoverScript_head (i : Nat) (c c1 : Ck) (v : Nat) (items : Option (List (TileId × Tree))) (ts : List TileId) :
    (recoverScript i c c1 v items ts).head? = some (.launchLoad i) := rfl

theorem recoverScript_last (i : Nat) (c c1 : Ck) (v : Nat) (items : Option (List (TileId × Tree))) (ts : List TileId) :
    (recoverScript i c c1 v items ts).getLast? = some (.loaded i c) := by
  unfold recoverScript
  exact List.getLast?_concat

theorem recoverScript_edge (i : Nat) (c c1 : Ck) (v : Nat) (items : Option (List (TileId × Tree))) (ts : List TileId) :
    ∀ t ∈ ts, Ev.fetch i (.tile t) (.ok (.slice (t.slice c.leaves))) ∈ recoverScript i c c1 v items ts := by
  intro t ht
  simp only [recoverScript, List.mem_append, edgeEvs, List.mem_map]
  exact Or.inl (Or.inr ⟨t, ht, rfl⟩)

theorem apply_run {s0 : Sys} {i : Nat} {c : Ck} (ht0 : s0.tampered = false) (hl0 : s0.lock = some c) :
    ∀ (n : Nat) (rem : List (TileId × Tree)) (s : Sys), rem.length ≤ n → rem ≠ [] → Reachable s → Fr i s0 s →
      (s.insts i).phase = .loading (.apply c rem false) →
      ∃ s', LoadRun i s (applyEvs i n rem) s' ∧ (s'.insts i).phase = .loading (.edge c false) := by
  intro n
  induction n with
  | zero =>
    intro rem s hlen hne
    cases rem with
    | nil => exact absurd rfl hne
    | cons _ _ => simp at hlen
  | succ n ih =>
    intro rem s hlen hne r fr hph
    cases rem with
    | nil => exact absurd rfl hne
    | cons p rest =>
      obtain ⟨t, xs⟩ := p
      have ht : s.tampered = false := by rw [fr.tampered]; exact ht0
      have hl : s.lock = some c := by rw [fr.lock]; exact hl0
      have h1 := inv_reachable r
      have h3 := inv3_reachable r ht
      have h4 := inv4_reachable r ht
      have hxs : xs = t.slice c.leaves := by
        have := h3.inst i
        simp only [SOK, hph] at this
        obtain ⟨old, items, hb, _, _, hsub, _⟩ := this
        exact bundle_slice hb (hsub _ List.mem_cons_self)
      -- the immutable upload is accepted: a tile already present renders a committed tree (`Inv4.tiles`), which is
      -- a prefix of the lock tree, so it is the very object being uploaded
      have hst : ∀ old, s.store (.tile t) = some (old, true) → old = .slice xs := by
        intro old hold
        obtain ⟨_, c', hc', hhi, ho⟩ := h4.tiles t old true hold
        have hpre := (lock_extends_hist h1 hl c' hc').1
        rw [ho, hxs, slice_prefix hpre hhi]
      obtain ⟨s1, hs1, fr1, hph1⟩ := load_apply hph hst
      by_cases hemp : (rest.filter (fun p => p.1 != t)).isEmpty
      · have hnil : rest.filter (fun p => p.1 != t) = [] := by simpa using hemp
        simp only [hemp, if_true] at hph1
        refine ⟨s1, ?_, hph1⟩
        simp only [applyEvs, hnil, applyEvs_nil]
        exact .cons hs1 fr1 (.nil i s1)
      · simp only [hemp] at hph1
        have hlen' : (rest.filter (fun p => p.1 != t)).length ≤ n := by
          have := List.length_filter_le (fun p : TileId × Tree => p.1 != t) rest
          simp at hlen; omega
        obtain ⟨s', hrun, hph'⟩ := ih _ s1 hlen' (by simpa using hemp) (r.step hs1) (fr.trans fr1) hph1
        exact ⟨s', .cons hs1 fr1 hrun, hph'⟩

theorem edge_run {i : Nat} {c : Ck} :
    ∀ (ts : List TileId) (s : Sys), (∀ t ∈ ts, Req c.leaves.length t = true ∧ t.kind.level < 8) →
      Complete s.store c.leaves → (s.insts i).phase = .loading (.edge c false) →
      ∃ s', LoadRun i s (edgeEvs i c ts) s' ∧ (s'.insts i).phase = .loading (.edge c false) := by
  intro ts
  induction ts with
  | nil => intro s _ _ hph; exact ⟨s, .nil i s, hph⟩
  | cons t ts ih =>
    intro s hts hc hph
    obtain ⟨hreq, hlv⟩ := hts t List.mem_cons_self
    obtain ⟨s', hrun, hph'⟩ := ih (setPhase s i (.loading (.edge c false)))
      (fun t' ht' => hts t' (List.mem_cons_of_mem _ ht')) hc (setPhase_phase _ _ _)
    exact ⟨s', .phase (load_edgeFetch hph (hc t hreq hlv) hreq) hrun, hph'⟩

theorem prefix_run {s : Sys} {i v : Nat} {c c1 : Ck} {imm : Bool} (hl : s.lock = some c)
    (hdown : (s.insts i).phase = .down) (hcfg : (s.insts i).cfgBad = false) (hv : c.time ≤ v)
    (hck : s.store .ckpt = some (.ck c1, imm)) :
    ∃ s4, LoadRun i s [.launchLoad i, .lockFetch i (.ok c), .clock i v, .fetch i .ckpt (.ok (.ck c1))] s4 ∧
      (s4.insts i).phase = .loading (.clock2 c c1) ∧ (s4.insts i).evictPending = false := by
  obtain ⟨s1, hs1, fr1, hph1, hev1⟩ := load_launch hdown
  refine ⟨_, .cons hs1 fr1 (.phase (load_lockFetch hph1 (fr1.lock.trans hl) (fr1.cfg.trans hcfg))
    (.phase (load_clock1 (setPhase_phase _ _ _) hv)
      (.phase (load_ckptFetch (setPhase_phase _ _ _) ((fr1.keys .ckpt (by simp)).trans hck)) (.nil _ _)))),
    setPhase_phase _ _ _, ?_⟩
  simpa [setPhase, Sys.setInst, upd] using hev1

theorem finish_run {s : Sys} {i : Nat} {c : Ck} (hph : (s.insts i).phase = .loading (.edge c false))
    (hc : Complete s.store c.leaves) (ts : List TileId)
    (hts : ∀ t ∈ ts, Req c.leaves.length t = true ∧ t.kind.level < 8) :
    ∃ s', LoadRun i s (edgeEvs i c ts ++ [.loaded i c]) s' ∧ (s'.insts i).phase = .idle ∧
      (s'.insts i).tree = c ∧ Complete s'.store c.leaves := by
  obtain ⟨s1, hrun, hph1⟩ := edge_run ts s hts hc hph
  have hlast : LoadRun i s1 [.loaded i c] _ := .cons (load_loaded hph1) (fr_setInst s1 i _ rfl id) (.nil _ _)
  have hall := hrun.append hlast
  exact ⟨_, hall, by simp [Sys.setInst, upd], by simp [Sys.setInst, upd], hc.mono hall.fr.tileLe⟩

/-- `hcs` cannot be dropped: it fails after a publication regression followed by a discard (`Seq.Cex`);
    `ckpt_or_staged_of_no_regression` gives it when the checkpoint object is a longest published one.
    `ts`: the right-edge tiles the load fetches, any required ones. -/
theorem recover_run_partial {s : Sys} (r : Reachable s) (ht : s.tampered = false) (i : Nat) (c : Ck) (v : Nat)
    (hl : s.lock = some c) (hpub : s.pubHist ≠ [])
    (hdown : (s.insts i).phase = .down) (hcfg : (s.insts i).cfgBad = false) (hv : c.time ≤ v)
    (hcs : ∀ c1 imm, s.store .ckpt = some (.ck c1, imm) → c1.leaves = c.leaves ∨ Staged s.store c.leaves)
    (ts : List TileId) (hts : ∀ t ∈ ts, Req c.leaves.length t = true ∧ t.kind.level < 8) :
    ∃ s' c1 items, recoverEvs s i c v ts = recoverScript i c c1 v items ts ∧
      run s (recoverEvs s i c v ts) = some s' ∧ (s'.insts i).phase = .idle ∧ (s'.insts i).tree = c ∧
      (s'.insts i).evictPending = false ∧ Complete s'.store c.leaves ∧ Fr i s s' := by
  have h1 := inv_reachable r
  have h3 := inv3_reachable r ht
  have h4 := inv4_reachable r ht
  obtain ⟨c1, imm, hck⟩ := h4.ckSome hpub
  have hc1p : c1 ∈ s.pubHist := h3.ckpt c1 imm hck
  obtain ⟨hpre, htime⟩ := lock_extends_hist h1 hl c1 (h1.pub c1 hc1p)
  have hv1 : c1.time ≤ v := Nat.le_trans htime hv
  obtain ⟨s4, hrun4, hph4, hev4⟩ := prefix_run (v := v) hl hdown hcfg hv hck
  by_cases heq : c1.leaves = c.leaves
  · -- the checkpoint object is up to date: straight to the right-edge check
    have hscript : recoverEvs s i c v ts = recoverScript i c c1 v none ts := by
      simp [recoverEvs, hck, heq]
    have hc5 : Complete (setPhase s4 i (.loading (.edge c false))).store c.leaves :=
      (heq ▸ h3.pub c1 hc1p).mono hrun4.fr.tileLe
    obtain ⟨s', hrun', hph', htree', hcomp'⟩ := finish_run (setPhase_phase s4 i _) hc5 ts hts
    have hall := hrun4.append (.phase (load_clock2_eq hph4 hv1 heq) hrun')
    refine ⟨s', c1, none, hscript, ?_, hph', htree', ?_, hcomp', hall.fr⟩
    · rw [hscript]; simpa [recoverScript] using hall.run
    · exact hrun'.fr.ev ((fr_setPhase s4 i _).ev hev4)
  · -- the checkpoint object is behind: re-apply the staged bundle
    obtain ⟨items, imm', hstg⟩ := (hcs c1 imm hck).resolve_left heq
    have hscript : recoverEvs s i c v ts = recoverScript i c c1 v (some items) ts := by
      simp [recoverEvs, hck, heq, hstg]
    have hne : items ≠ [] := by
      obtain ⟨_, items', hb, hn⟩ := h4.stagedNe _ _ _ hstg
      injection hb with hb; subst hb; exact hn
    have hrun7 := hrun4.append (.phase (load_clock2_lt hph4 hv1 hpre heq)
      (.phase (load_legacy (setPhase_phase _ _ _) ((hrun4.fr.keys _ (by simp)).trans (h4.legacy _)))
        (.phase (load_stagingFetch (setPhase_phase _ _ _) ((hrun4.fr.keys _ (by simp)).trans hstg)) (.nil _ _))))
    obtain ⟨s8, hrun8, hph8⟩ := apply_run ht hl items.length items _ (Nat.le_refl _) hne (r.run hrun7.run) hrun7.fr
      (setPhase_phase _ i _)
    have hall8 := hrun7.append hrun8
    have hc8 : Complete s8.store c.leaves := by
      have := (inv3_reachable (r.run hall8.run) (hall8.fr.tampered.trans ht)).inst i
      simpa [SOK, hph8] using this
    obtain ⟨s', hrun', hph', htree', hcomp'⟩ := finish_run hph8 hc8 ts hts
    have hall := hall8.append hrun'
    refine ⟨s', c1, some items, hscript, ?_, hph', htree', ?_, hcomp', hall.fr⟩
    · rw [hscript]; simpa [recoverScript] using hall.run
    · exact hrun'.fr.ev (hrun8.fr.ev (by simpa [setPhase, Sys.setInst, upd] using hev4))

theorem can_launch_round {s : Sys} {i : Nat} (hph : (s.insts i).phase = .idle)
    (hev : (s.insts i).evictPending = false) : ∃ s'', step s (.launchRound i) = some s'' := by
  simp [step, hph, hev]

/-- `recover_run_partial` with the script hidden: of the event list, only what C03 says about it -/
theorem recover_run_of_ckpt_or_staged {s : Sys} (r : Reachable s) (ht : s.tampered = false) (i : Nat) (c : Ck)
    (v : Nat) (hl : s.lock = some c) (hpub : s.pubHist ≠ [])
    (hdown : (s.insts i).phase = .down) (hcfg : (s.insts i).cfgBad = false) (hv : c.time ≤ v)
    (hcs : ∀ c1 imm, s.store .ckpt = some (.ck c1, imm) → c1.leaves = c.leaves ∨ Staged s.store c.leaves)
    (ts : List TileId) (hts : ∀ t ∈ ts, Req c.leaves.length t = true ∧ t.kind.level < 8) :
    ∃ es s', run s es = some s' ∧ (s'.insts i).phase = .idle ∧ (s'.insts i).tree = c ∧
      Complete s'.store c.leaves ∧ s'.lock = some c ∧ s'.lockHist = s.lockHist ∧ s'.pubHist = s.pubHist ∧
      s'.tampered = false ∧ (∀ j, j ≠ i → s'.insts j = s.insts j) ∧
      es.head? = some (.launchLoad i) ∧ es.getLast? = some (.loaded i c) ∧
      (∀ t ∈ ts, Ev.fetch i (.tile t) (.ok (.slice (t.slice c.leaves))) ∈ es) ∧
      (∃ s'', step s' (.launchRound i) = some s'') := by
  obtain ⟨s', c1, items, hscript, hrun, hph, htree, hev, hcomp, fr⟩ :=
    recover_run_partial r ht i c v hl hpub hdown hcfg hv hcs ts hts
  refine ⟨recoverEvs s i c v ts, s', hrun, hph, htree, hcomp, fr.lock.trans hl, fr.lockHist, fr.pubHist,
    fr.tampered.trans ht, fr.others, ?_, ?_, ?_, can_launch_round hph hev⟩
  · rw [hscript]; exact recoverScript_head _ _ _ _ _ _
  · rw [hscript]; exact recoverScript_last _ _ _ _ _ _
  · rw [hscript]; exact recoverScript_edge _ _ _ _ _ _

/-- no publication regression: the checkpoint object is a longest published checkpoint. Then the
    proviso of `recover_run_partial` holds. -/
theorem ckpt_or_staged_of_no_regression {s : Sys} (r : Reachable s) (ht : s.tampered = false) {c : Ck}
    (hl : s.lock = some c)
    (hnr : ∀ c1 imm, s.store .ckpt = some (.ck c1, imm) → ∀ p ∈ s.pubHist, p.leaves.length ≤ c1.leaves.length) :
    ∀ c1 imm, s.store .ckpt = some (.ck c1, imm) → c1.leaves = c.leaves ∨ Staged s.store c.leaves := by
  intro c1 imm hck
  have h1 := inv_reachable r
  have h3 := inv3_reachable r ht
  have h4 := inv4_reachable r ht
  obtain ⟨hpre, _⟩ := lock_extends_hist h1 hl c1 (h1.pub c1 (h3.ckpt c1 imm hck))
  rcases h4.hist c (lock_mem_hist h1 hl) with h0 | ⟨p, hp, hpl⟩ | hst
  · left
    rw [h0] at hpre ⊢
    exact List.prefix_nil.1 hpre
  · left
    have := hnr c1 imm hck p hp
    rw [hpl] at this
    exact hpre.eq_of_length (Nat.le_antisymm hpre.length_le this)
  · exact Or.inr hst

end Seq
