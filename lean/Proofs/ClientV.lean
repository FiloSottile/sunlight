import Model.ClientV
import Proofs.Leaf
import Proofs.Merkle
import Proofs.NoteOpen
/-! What the client's functions of `Model/ClientV.lean` have checked when they return something: inversion lemmas and
the soundness statements `Props/C12.lean` rests on. -/
namespace ClientV
open Codec Merkle

variable {H : Type}

/-- `hf.leaf` (RecordHash) has no collisions -/
def LeafInj (hf : HashFn H) : Prop := ∀ a b : Bytes, hf.leaf a = hf.leaf b → a = b

theorem parseEntry_inv {allow : Bool} {entry : Bytes} {e : LogEntry} (h : parseEntry allow entry = some e) :
    readTileLeaf entry = .ok (e, []) ∧ (allow = false → e.archival = false) := by
  -- along the definition: every branch but one returns `none`, which `h` excludes (so throughout this file)
  revert h
  fun_cases parseEntry allow entry <;> intro h <;> cases h
  rename_i heq
  cases allow
  · exact ⟨(readTileLeafStrict_eq_ok.1 heq).1, fun _ => (readTileLeafStrict_eq_ok.1 heq).2⟩
  · exact ⟨heq, nofun⟩

/-- What `cutEntry` hashed is the Merkle leaf of exactly the entry sunlight's wrapper re-parses
from the consumed prefix. -/
theorem cut_parse {hf : HashFn H} {allow : Bool} {data entry rest : Bytes} {rh : H} {e : LogEntry}
    (hc : cutEntry hf data = some (entry, rh, rest)) (hp : parseEntry allow entry = some e) :
    ∃ m, merkleTreeLeaf e = some m ∧ rh = hf.leaf m ∧ WF e := by
  revert hc
  fun_cases cutEntry hf data <;> intro hc <;> cases hc
  rename_i e0 m hm hr
  -- the consumed prefix is the canonical encoding of `e0`, which parses back to `e0` with nothing left over
  obtain ⟨pre, hpre, hcat, wf⟩ := leaf_canonical data e0 rest hr
  obtain ⟨body, hbody, hread⟩ := leaf_roundtrip e0 [] [] wf
  rw [hpre] at hbody
  cases hbody
  rw [← hcat, List.length_append, Nat.add_sub_cancel, List.take_left' rfl, List.nil_append] at hp
  rw [List.append_nil, (parseEntry_inv hp).1] at hread
  cases hread
  exact ⟨m, hm, rfl, wf⟩

theorem getElem?_map_leaf {hf : HashFn H} (hinj : LeafInj hf) {L : List Bytes} {j : Nat} {m : Bytes}
    (h : (L.map hf.leaf)[j]? = some (hf.leaf m)) : L[j]? = some m := by
  rw [List.getElem?_map] at h
  obtain ⟨x, hx, hm⟩ := Option.map_eq_some_iff.1 h
  rw [hx, hinj x m hm]

theorem mem_scanTile_cons [DecidableEq H] {hf : HashFn H} {allow : Bool} {start i : Nat} {data : Bytes} {h : H}
    {hs : List H} {p : Nat × LogEntry} (hp : p ∈ (scanTile hf allow start i data (h :: hs)).1) :
    ∃ entry rest, cutEntry hf data = some (entry, h, rest) ∧
      (start ≤ i ∧ p.1 = i ∧ parseEntry allow entry = some p.2 ∨
        p ∈ (scanTile hf allow start (i + 1) rest hs).1) := by
  -- of the branches of the tile loop two go on; in the others nothing is yielded
  rw [scanTile] at hp
  by_cases hd : data = []
  · rw [if_pos hd] at hp; cases hp
  cases hc : cutEntry hf data with
  | none => rw [if_neg hd, hc] at hp; cases hp
  | some x =>
    obtain ⟨entry, rh, rest⟩ := x
    rw [if_neg hd, hc] at hp
    dsimp only at hp
    by_cases hrh : rh = h
    · subst hrh
      refine ⟨entry, rest, rfl, ?_⟩
      rw [if_neg (not_not_intro rfl)] at hp
      by_cases hst : i < start
      · rw [if_pos hst] at hp; exact Or.inr hp
      rw [if_neg hst] at hp
      cases hpe : parseEntry allow entry with
      | none => rw [hpe] at hp; cases hp
      | some e =>
        rw [hpe] at hp
        rcases List.mem_cons.1 hp with rfl | hp
        · exact Or.inl ⟨Nat.le_of_not_lt hst, rfl, rfl⟩
        · exact Or.inr hp
    · rw [if_pos hrh] at hp; cases hp

/-- `hauth` is the tile-reader contract: the hashes the loop compares with are those of the leaves `i, i+1, …` of `L`. -/
theorem scanTile_sound [DecidableEq H] {hf : HashFn H} (hinj : LeafInj hf) {allow : Bool} {start : Nat}
    {L : List Bytes} {hs : List H} {i : Nat} {data : Bytes}
    (hauth : ∀ k h, hs[k]? = some h → (L.map hf.leaf)[i + k]? = some h) :
    ∀ p ∈ (scanTile hf allow start i data hs).1,
      start ≤ p.1 ∧ i ≤ p.1 ∧ p.1 < i + hs.length ∧
        ∃ m, merkleTreeLeaf p.2 = some m ∧ L[p.1]? = some m ∧ WF p.2 := by
  induction hs generalizing i data with
  | nil => intro p hp; rw [scanTile] at hp; cases hp
  | cons h hs ih =>
    intro p hp
    obtain ⟨entry, rest, hc, ⟨hst, hi, hpe⟩ | hp⟩ := mem_scanTile_cons hp
    · -- yielded here: the record hash `cutEntry` computed is the authenticated hash of leaf `i`
      obtain ⟨m, hm, rfl, wf⟩ := cut_parse hc hpe
      rw [hi]
      exact ⟨hst, Nat.le_refl _, by rw [List.length_cons]; omega, m, hm,
        getElem?_map_leaf hinj (hauth 0 _ rfl), wf⟩
    · obtain ⟨a, b, c, d⟩ :=
        ih (fun k h' hk => by rw [Nat.add_right_comm]; exact hauth (k + 1) h' hk) p hp
      exact ⟨a, by omega, by rw [List.length_cons]; omega, d⟩

theorem cutNth_cut {hf : HashFn H} {k : Nat} {data entry : Bytes} {rh : H}
    (h : cutNth hf k data = some (entry, rh)) : ∃ d rest, cutEntry hf d = some (entry, rh, rest) := by
  fun_induction cutNth hf k data
  case case2 data _ =>
    obtain ⟨⟨a, b, c⟩, hc, hx⟩ := Option.map_eq_some_iff.1 h
    cases hx
    exact ⟨data, c, hc⟩
  case case5 ih => exact ih h
  all_goals cases h

theorem clientEntry_inv [DecidableEq H] {hf : HashFn H} {allow : Bool} {t : Tree H} {index : Nat} {data : Bytes}
    {proof : List H} {e : LogEntry} (h : clientEntry hf allow t index data proof = some e) :
    index < t.n ∧ (e.archival = false → e.leafIndex = Int.ofNat index) ∧
      ∃ entry rh, cutNth hf (index % tileWidth) data = some (entry, rh) ∧
        checkRecord hf.node proof t.n t.root index rh = true ∧ parseEntry allow entry = some e := by
  revert h
  fun_cases clientEntry hf allow t index data proof <;> intro h <;> cases h
  have hidx : ¬((!e.archival) = true ∧ e.leafIndex ≠ Int.ofNat index) := ‹_›
  exact ⟨Nat.lt_of_not_le ‹¬index ≥ t.n›, fun ha => Decidable.byContradiction fun hne => hidx ⟨by simp [ha], hne⟩,
    _, _, ‹_›, by simpa using ‹¬(!checkRecord hf.node proof t.n t.root index _) = true›, ‹_›⟩

theorem clientEntry_sound [DecidableEq H] {hf : HashFn H} (hinj : LeafInj hf) (hnode : NodeInj hf.node)
    {allow : Bool} {t : Tree H} {index : Nat} {data : Bytes} {proof : List H} {e : LogEntry}
    (h : clientEntry hf allow t index data proof = some e) :
    index < t.n ∧ (e.archival = false → e.leafIndex = Int.ofNat index) ∧ WF e ∧
      ∃ m, merkleTreeLeaf e = some m ∧ ∀ L, Opens hf t L → L[index]? = some m := by
  obtain ⟨hlt, hidx, entry, rh, hn, hck, hpe⟩ := clientEntry_inv h
  obtain ⟨d, rest, hc⟩ := cutNth_cut hn
  obtain ⟨m, hm, rfl, wf⟩ := cut_parse hc hpe
  exact ⟨hlt, hidx, wf, m, hm, fun L hL => getElem?_map_leaf hinj
    (checkRecord_sound hf.node hf.empty hnode proof t.n t.root index _ hck (L.map hf.leaf)
      (by rw [List.length_map]; exact hL.1) hL.2)⟩

/-- Go's `int64(x)` of a `uint64` did not wrap when it comes out non-negative -/
theorem i64_of_nonneg {x : Nat} (hx : x < 18446744073709551616) (h : 0 ≤ i64 x) : i64 x = Int.ofNat x := by
  unfold i64 at h ⊢
  split
  · rfl
  · rw [if_neg ‹_›] at h
    simp only [Int.ofNat_eq_natCast] at h
    omega

theorem checkInclusion_inv [DecidableEq H] {hf : HashFn H} {allow : Bool} {keyId : Bytes}
    {sigVerify : Bytes → Bytes → Bool} {t : Tree H} {served : Nat → Bytes × List H} {s : SCT} {e : LogEntry}
    (h : checkInclusion hf allow keyId sigVerify t served s = some e) :
    s.version = 0 ∧ s.logId = keyId ∧ ∃ idx : Int, parseExtensions s.extensions = .ok idx ∧
      clientEntry hf allow t idx.toNat (served idx.toNat).1 (served idx.toNat).2 = some e ∧
      e.timestamp = i64 s.timestamp ∧ ∃ m, merkleTreeLeaf e = some m ∧ sigVerify m s.signature = true := by
  revert h
  fun_cases checkInclusion hf allow keyId sigVerify t served s <;> intro h <;> cases h
  exact ⟨Decidable.not_not.1 ‹¬s.version ≠ 0›, Decidable.not_not.1 ‹¬s.logId ≠ keyId›, _, ‹_›, ‹_›,
    Decidable.not_not.1 ‹¬e.timestamp ≠ i64 s.timestamp›, _, ‹_›, ‹_›⟩

open Checkpoint in
theorem noteOpen_single {v : NoteVerifier} {note : Note} {l : List SigLine} (h : noteOpen [v] note = .ok l) :
    ∃ s ∈ note.sigs, v.name = s.name ∧ v.verify note.text s.sig = true := by
  obtain ⟨hne, hall⟩ := noteOpen_sound h
  obtain ⟨s, hs⟩ := List.exists_mem_of_ne_nil l hne
  obtain ⟨hmem, v', hv, hname, _, hver⟩ := hall s hs
  cases List.mem_singleton.1 hv
  exact ⟨s, hmem, hname, hver⟩

open Checkpoint in
theorem clientCheckpoint_sound {cv : Crypto} {key : PubKey} {kh : Bytes → Nat} {note : Note}
    {c : Checkpoint.Checkpoint} (h : clientCheckpoint cv key kh note = some c) :
    parseCheckpoint note.text = some c ∧ c.origin = firstLine note.text ∧
      ∃ s ∈ note.sigs, s.name = c.origin ∧ verifier cv c.origin key note.text s.sig = true := by
  revert h
  fun_cases clientCheckpoint cv key kh note <;> intro h <;> cases h
  obtain ⟨s, hmem, hname, hver⟩ := noteOpen_single ‹noteOpen _ note = .ok _›
  rw [Decidable.not_not.1 ‹¬c.origin ≠ _›]
  exact ⟨‹_›, rfl, s, hmem, hname.symm, hver⟩

/-! ### a collision-free hash function for the non-vacuity examples: the free term algebra -/
namespace Demo

inductive T where
  | leaf (b : Bytes)
  | node (a b : T)
  | empty
deriving DecidableEq

def thf : HashFn T := ⟨T.leaf, T.node, T.empty⟩

theorem thf_leafInj : LeafInj thf := fun a b h => by cases h; rfl
theorem thf_nodeInj : NodeInj thf.node := fun a b c d h => by cases h; exact ⟨rfl, rfl⟩

end Demo

end ClientV
