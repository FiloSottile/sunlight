import Model.Checkpoint
/-! What `note.Open` (`Checkpoint.noteOpen`) has checked when it returns signatures. -/
namespace Checkpoint

/-- the invariant of the signature loop, for any `P`: it holds of the lines accepted so far (`acc`), and of a line as soon
as a known verifier of its name and key hash accepts it; then it holds of every line returned -/
theorem openLoop_sound (known : List NoteVerifier) (text : Bytes) (P : SigLine → Prop) :
    ∀ (sigs : List SigLine) (cnt : Nat) (seen : List (Bytes × Nat)) (acc out : List SigLine),
      openLoop known text sigs cnt seen acc = .ok out → (∀ s ∈ acc, P s) →
      (∀ s ∈ sigs, ∀ v ∈ known, v.name = s.name → v.hash = s.hash → v.verify text s.sig = true → P s) →
      ∀ s ∈ out, P s := by
  intro sigs
  induction sigs with
  | nil =>
    intro cnt seen acc out h hacc _ s hs
    cases h
    exact hacc s (List.mem_reverse.1 hs)
  | cons x rest ih =>
    intro cnt seen acc out h hacc hsig
    have hrest : ∀ s ∈ rest, ∀ v ∈ known, v.name = s.name → v.hash = s.hash → v.verify text s.sig = true → P s :=
      fun s hs => hsig s (List.mem_cons_of_mem _ hs)
    simp only [openLoop] at h
    split at h
    · cases h
    · split at h
      · exact ih _ _ _ _ h hacc hrest
      · rename_i v hf
        split at h
        · exact ih _ _ _ _ h hacc hrest
        · split at h
          · rename_i hv
            -- `x` joins the accepted lines: `v`, the one known verifier of its name and key hash, accepted it
            have hvk := List.mem_filter.1 (hf ▸ List.mem_singleton_self v :
              v ∈ known.filter fun v => v.name = x.name ∧ v.hash = x.hash)
            simp only [decide_eq_true_eq] at hvk
            refine ih _ _ _ _ h (fun s hs => ?_) hrest
            rcases List.mem_cons.1 hs with rfl | hin
            · exact hsig s List.mem_cons_self v hvk.1 hvk.2.1 hvk.2.2 hv
            · exact hacc s hin
          · cases h
      · cases h

theorem noteOpen_sound {known : List NoteVerifier} {note : Note} {out : List SigLine}
    (h : noteOpen known note = .ok out) :
    out ≠ [] ∧ ∀ s ∈ out, s ∈ note.sigs ∧
      ∃ v ∈ known, v.name = s.name ∧ v.hash = s.hash ∧ v.verify note.text s.sig = true := by
  unfold noteOpen at h
  split at h
  · cases h
  · cases h
  · rename_i l hne hl
    cases h
    exact ⟨hne, openLoop_sound known note.text _ note.sigs 0 [] [] _ hl (fun _ hs => nomatch hs)
      (fun s hs v hv h1 h2 h3 => ⟨hs, v, hv, h1, h2, h3⟩)⟩

end Checkpoint
