import Proofs.MirrorInv
/-! What keeps the tile store true of the log: package authentication (`checkSubtree_sound` + the C14
chain + collision freeness), the tile-upload loop of one package, `ensureCutTiles`. -/
namespace Mirror
open Merkle Witness

variable (node : Hash → Hash → Hash) (emptyHash : Hash) (leaf : Entry → Hash)

/-- `tlog.RecordHash` is collision free -/
def LeafInj : Prop := ∀ a b : Entry, leaf a = leaf b → a = b

theorem bundleOf_take (E : List Entry) {N n w : Nat} (h : 256 * n + w ≤ N) :
    bundleOf (E.take N) n w = bundleOf E n w := by
  unfold bundleOf
  rw [List.drop_take, List.take_take]
  congr 1
  omega

theorem bundleOf_length (E : List Entry) {n w : Nat} (h : 256 * n + w ≤ E.length) : (bundleOf E n w).length = w := by
  unfold bundleOf; rw [List.length_take, List.length_drop]; omega

theorem bundleOf_prefix (E : List Entry) {n w v : Nat} (h : v ≤ w) : (bundleOf E n w).take v = bundleOf E n v := by
  unfold bundleOf; rw [List.take_take]; congr 1; omega

variable {node emptyHash} in
theorem tileOf_take (B : List Hash) {N l n w : Nat} (h : (256 * n + w) * 256 ^ l ≤ N) :
    tileOf node emptyHash (B.take N) l n w = tileOf node emptyHash B l n w := by
  unfold tileOf
  apply List.map_congr_left
  intro i hi
  have : (256 * n + i + 1) * 256 ^ l ≤ (256 * n + w) * 256 ^ l :=
    Nat.mul_le_mul_right _ (by have := List.mem_range.1 hi; omega)
  rw [rng_take_of_le B (Nat.le_trans this h)]

variable {node emptyHash leaf} in
/-- `checkSubtree_sound` over the prefix of the log that opens the tree head (the C14 chain), then `mth_inj`
(interior hashing collision free) and `LeafInj` (record hashing collision free) -/
theorem auth (inj : NodeInj node) (linj : LeafInj leaf) {hist : List (Nat × Hash)}
    (hc : hist.Pairwise (Consistent node emptyHash)) {ck : Nat × Hash} (hk : ck ∈ hist)
    {E : List Entry} (ht : TruthH node emptyHash leaf hist E) {p : List Hash} {s e : Nat} {all : List Entry}
    (hcs : checkSubtree node p ck.1 ck.2 s e (mth node emptyHash (all.map leaf)) = true)
    (hlen : all.length = e - s) :
    all = (E.drop s).take (e - s) ∧ e ≤ ck.1 := by
  obtain ⟨hle, hroot⟩ := truth_mem node emptyHash leaf hc ht hk
  obtain ⟨⟨hv, he, _⟩, _⟩ := checkSubtree_iff.1 hcs
  have hse : s < e := ((validSubtree_spec s e).1 hv).1
  have hBl : ((E.map leaf).take ck.1).length = ck.1 := by rw [List.length_take, List.length_map]; omega
  have hs := checkSubtree_sound node emptyHash inj p ck.1 ck.2 s e _ hcs ((E.map leaf).take ck.1) hBl hroot.symm
  unfold subtreeHash at hs
  rw [rng_take_of_le (E.map leaf) he] at hs
  have hl1 : (rng (E.map leaf) s e).length = e - s :=
    rng_length (E.map leaf) (by rw [List.length_map]; omega) (by omega)
  have heq := mth_inj node emptyHash inj _ _ (by rw [hl1, List.length_map, hlen]) hs
  exact ⟨((List.map_inj_right linj).1 ((rng_map_eq leaf E s e).symm.trans heq)).symm, he⟩

variable {node emptyHash leaf} in
theorem uploadTiles_store (rs : Nat) (ov : List Hash) (all : List Entry) (n0 w0 : Nat) (hist : List (Nat × Hash))
    (hall : ∀ E, TruthH node emptyHash leaf hist E → all = bundleOf E n0 w0 ∧ 256 * n0 + w0 ≤ E.length)
    (hov : ∀ E, TruthH node emptyHash leaf hist E → ov = rng (E.map leaf) rs (rs + ov.length) ∧ rs + ov.length ≤ E.length)
    {tiles : List (Nat × Nat × Nat)} {outs : List Fault} {st s : MState} {ok : Bool}
    (h : uploadTiles node emptyHash rs ov all tiles outs st = (s, ok)) (hh : st.w.hist = hist)
    (ht : ∀ t ∈ tiles, t.2.2 ≠ 0 ∧ (t.1 = 0 → t.2.1 = n0 ∧ t.2.2 = w0))
    (hi : StoreInv node emptyHash leaf st) :
    StoreStep node emptyHash leaf st s ∧
    (ok = true → ∀ t ∈ tiles, (s.hash t.1 t.2.1 t.2.2).isSome ∧ (t.1 = 0 → (s.data t.2.1 t.2.2).isSome)) := by
  induction tiles generalizing outs st with
  | nil => cases h; exact ⟨.refl hi, fun _ t ht => by cases ht⟩
  | cons t rest ih =>
    obtain ⟨l, n, w⟩ := t
    obtain ⟨htw, ht0⟩ := ht (l, n, w) List.mem_cons_self
    have hrest := fun t h => ht t (List.mem_cons_of_mem _ h)
    -- the hash tile and the rest, from a state `s1` in which the entry bundle is in place if `l = 0`
    have go : ∀ (s1 : MState) (outs1 : List Fault), StoreStep node emptyHash leaf st s1 → (l = 0 → (s1.data n w).isSome) →
        (match tileData node emptyHash s1.hash rs ov l n w with
          | none => (s1, false)
          | some hs =>
            match putHash s1 l n w hs (headFault outs1) with
            | (st2, true) => uploadTiles node emptyHash rs ov all rest outs1.tail st2
            | (st2, false) => (st2, false)) = (s, ok) →
        StoreStep node emptyHash leaf st s ∧
        (ok = true → ∀ t ∈ (l, n, w) :: rest, (s.hash t.1 t.2.1 t.2.2).isSome ∧ (t.1 = 0 → (s.data t.2.1 t.2.2).isSome)) := by
      intro s1 outs1 h1 hd1 h
      have hh1 : s1.w.hist = hist := by rw [h1.ctl.w]; exact hh
      split at h
      · cases h; exact ⟨h1, nofun⟩
      · rename_i hs htd
        have hhs : ∀ E, TruthH node emptyHash leaf s1.w.hist E →
            hs = tileOf node emptyHash (E.map leaf) l n w ∧ (256 * n + w) * 256 ^ l ≤ (E.map leaf).length := by
          intro E hE
          obtain ⟨ho1, ho2⟩ := hov E (hh1 ▸ hE)
          have := tileData_sound node emptyHash (E.map leaf) s1.hash (h1.inv.hash E hE) rs ov ho1
            (by rw [List.length_map]; exact ho2) _ _ _ _ htd
          exact ⟨this.1, this.2 htw⟩
        split at h <;> rename_i st2 hput <;> obtain ⟨h2, hok⟩ := putHash_store hput h1.inv hhs hd1
        · obtain ⟨r1, r2⟩ := ih h (by rw [h2.ctl.w]; exact hh1) hrest h2.inv
          refine ⟨(h1.trans h2).trans r1, fun hr t ht' => ?_⟩
          rcases List.mem_cons.1 ht' with rfl | hin
          · exact ⟨r1.le.hash _ _ _ (by rw [hok rfl]; rfl), fun hl0 => r1.le.data _ _ (h2.le.data _ _ (hd1 hl0))⟩
          · exact r2 hr t hin
        · cases h; exact ⟨h1.trans h2, nofun⟩
    unfold uploadTiles at h
    by_cases hl : l = 0
    · rw [if_pos hl] at h
      obtain ⟨rfl, rfl⟩ := ht0 hl
      split at h <;> rename_i st1 hput <;>
        obtain ⟨h1, hok⟩ := putData_store hput hi fun E hE => hall E (hh ▸ hE)
      · exact go st1 outs.tail h1 (fun _ => by rw [hok rfl]; rfl) h
      · cases h; exact ⟨h1, nofun⟩
    · rw [if_neg hl] at h
      exact go st outs (.refl hi) (fun h => absurd h hl) h

variable {node emptyHash leaf} in
/-- the partial tile at the cut is a prefix of a bundle already in the store, hence the log's -/
theorem ensureCut_store {n next : Nat} {fh fw : Bool} {ud uh : Fault} {st s : MState} {ok : Bool}
    (h : ensureCut leaf n next fh fw ud uh st = (s, ok)) (hi : StoreInv node emptyHash leaf st) :
    StoreStep node emptyHash leaf st s ∧ (ok = true → n % 256 ≠ 0 → (s.hash 0 (n / 256) (n % 256)).isSome) := by
  have hq : (n - n % 256) / 256 = n / 256 := by omega
  unfold ensureCut at h
  dsimp only at h
  rw [hq] at h
  split at h
  · cases h; exact ⟨.refl hi, fun _ hne => absurd ‹n % 256 = 0› hne⟩
  split at h
  · rename_i hp
    cases h; exact ⟨.refl hi, fun _ _ => (Bool.and_eq_true _ _ ▸ hp).2⟩
  split at h
  · cases h; exact ⟨.refl hi, nofun⟩
  split at h
  · cases h; exact ⟨.refl hi, nofun⟩
  rename_i tile htile
  split at h
  · cases h; exact ⟨.refl hi, nofun⟩
  rename_i hlen
  have hcut : ∀ E, TruthH node emptyHash leaf st.w.hist E →
      tile.take (n % 256) = bundleOf E (n / 256) (n % 256) ∧ 256 * (n / 256) + n % 256 ≤ E.length := by
    intro E hE
    obtain ⟨e1, e2⟩ := hi.data E hE _ _ _ htile
    have hl := bundleOf_length E e2
    rw [← e1] at hl
    rw [e1, bundleOf_prefix E (by omega)]
    exact ⟨rfl, by omega⟩
  split at h <;> rename_i st1 hput <;> obtain ⟨h1, hok⟩ := putData_store hput hi hcut
  · cases h; exact ⟨h1, nofun⟩
  · obtain ⟨h2, hok2⟩ := putHash_store h h1.inv
      (fun E hE => by
        obtain ⟨c1, c2⟩ := hcut E (h1.ctl.w ▸ hE)
        rw [c1, tileOf_zero node emptyHash leaf E _ _ c2]
        exact ⟨rfl, by simp; omega⟩)
      (fun _ => by rw [hok rfl]; rfl)
    exact ⟨h1.trans h2, fun hr _ => by rw [hok2 hr]; rfl⟩

end Mirror
