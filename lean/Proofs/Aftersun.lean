import Model.Aftersun
import Proofs.TorchwoodPath
/-!
Every deletion of the walk is justified by the guards that were evaluated for it (`AllJustified`, `cleanRoot_justified`).
`cleanDir` gets the full sibling by trimming `.p` from a directory name, `overrideImmutable` by cutting the file name at
its first `.p/`: `parser_sibling` shows that what a tool parser accepts in front of `.p/` contains no '.', so both look
at the same file (`cleanRoot_deletedFile`). `atOrRightOfEdge_eq` evaluates the right-edge arithmetic of `cleanDir` with Go's shift,
wrap-around and divide-by-zero semantics.
-/
namespace Aftersun
open TilePath

theorem nStr_nodot (n : Int) : (46 : UInt8) ∉ nStr n := by
  obtain ⟨G, hG, hx⟩ := nStr_struct n
  rw [hG]
  intro hm
  rcases mem_joinSlash hm with h | ⟨g, hg, h⟩
  · cases h
  · rcases List.mem_append.mp hg with hg | hg
    · exact hx.not_mem hg (by decide) (by decide) (by decide) h
    · exact group_not_mem (Or.inl (List.mem_singleton.mp hg)) (by decide) (by decide) (by decide) h

theorem head_nodot {special head p : Bytes} {fixL : Option Int} {t : Tile} (hsp : (46 : UInt8) ∉ special)
    (h : PathHead special fixL p t head) : (46 : UInt8) ∉ head ++ nStr t.N := by
  intro hm
  rcases List.mem_append.mp hm with hm | hm
  · rcases h.head_eq with ⟨rfl, _⟩ | ⟨rfl, hL, _⟩
    · exact hsp hm
    · rcases List.mem_append.mp hm with h1 | h1
      · exact absurd h1 (by decide)
      · rcases List.mem_append.mp h1 with h2 | h2
        · exact levelStr_not_mem hL (by decide) (by decide) h2
        · exact absurd h2 (by decide)
  · exact nStr_nodot _ hm

theorem dotPSlash_eq : dotPSlash = 46 :: ascii "p/" := by decide

/-- the two parsers the tool is run with (`parserOf`) -/
inductive IsToolParser : (Bytes → Option Tile) → Prop
  | sunlight : IsToolParser sunlightParse
  | torchwood : IsToolParser torchwoodParse

theorem IsToolParser.eq_parseWith {parse : Bytes → Option Tile} (hp : IsToolParser parse) :
    ∃ special fixL, (46 : UInt8) ∉ special ∧ parse = parseWith special fixL := by
  cases hp with
  | sunlight => exact ⟨ascii "tile/names/", _, by decide, funext sunlightParse_eq⟩
  | torchwood => exact ⟨ascii "tile/entries/", none, by decide, rfl⟩

theorem parser_sibling {parse : Bytes → Option Tile} (hp : IsToolParser parse) {a q : Bytes} {t t' : Tile}
    (h : parse a = some t) (h' : parse (a ++ dotPSlash ++ q) = some t') (hw : t'.W ≠ 256) :
    t = { t' with W := 256 } ∧ (46 : UInt8) ∉ a ∧ q = fmtInt t'.W := by
  obtain ⟨special, fixL, hsp, rfl⟩ := hp.eq_parseWith
  obtain ⟨b, hb⟩ := parseWith_accepts h
  obtain ⟨b', hb'⟩ := parseWith_accepts h'
  obtain ⟨d', _⟩ := parseWith_eq_some.mp h'
  have ha := hb.path
  have nd := head_nodot hsp hb
  have nd' := head_nodot hsp hb'
  -- the partial path, spelled both ways, is cut at its first '.'
  have e : a ++ 46 :: (ascii "p/" ++ q) = (b' ++ nStr t'.N) ++ 46 :: (ascii "p/" ++ fmtInt t'.W) := by
    rw [List.append_assoc, ← nwPart_partial hw, ← hb'.path, dotPSlash_eq]; simp
  by_cases hwt : t.W = 256
  · rw [nwPart_full hwt] at ha
    rw [ha] at e
    obtain ⟨hbase, hr⟩ := append_cons_inj nd nd' e
    rw [ha, hbase, hb'.full] at h
    exact ⟨(Option.some.inj h).symm, ha ▸ nd, List.append_cancel_left hr⟩
  · -- `a` itself would be a partial path: then the width of `t'` would contain a '.'
    exfalso
    rw [nwPart_partial hwt] at ha
    rw [ha, List.append_assoc, List.append_assoc, List.cons_append, ← List.append_assoc] at e
    have hm : (46 : UInt8) ∈ ascii "p/" ++ fmtInt t'.W := by rw [← (append_cons_inj nd nd' e).2]; simp
    exact (List.mem_append.mp hm).elim (by decide)
      (not_mem_of_all (fmtInt_digits (x := t'.W) (by have := d'.W_pos; omega)) (by decide))

theorem parser_dom {parse : Bytes → Option Tile} (hp : IsToolParser parse) (p : Bytes) (t : Tile)
    (h : parse p = some t) : TileDom t := by
  cases hp with
  | sunlight => exact (sunlightParse_eq_some.mp h).2
  | torchwood => exact (torchwoodParse_eq_some.mp h).1

theorem cutSub_first (c : UInt8) (n' : Bytes) : ∀ (a r : Bytes), c ∉ a →
    cutSub (c :: n') (a ++ (c :: n') ++ r) = some (a, r)
  | [], r, _ => by simp [cutSub]
  | b :: bs, r, h => by
    have hb : b ≠ c := fun hc => h (by simp [hc])
    have ih := cutSub_first c n' bs r (fun hm => h (List.mem_cons_of_mem _ hm))
    simp only [List.append_assoc, List.cons_append] at ih
    simp [cutSub, hb, ih]

theorem cutSub_dotPSlash (a r : Bytes) (h : (46 : UInt8) ∉ a) : cutSub dotPSlash (a ++ dotPSlash ++ r) = some (a, r) := by
  rw [dotPSlash_eq]
  exact cutSub_first 46 _ a r h

theorem overrideImmutable_true {fs : FS} {name : Bytes} (h : overrideImmutable fs name = true) :
    ∃ full w v sib, cutSub dotPSlash name = some (full, w) ∧ atoi w = some v ∧ fs.stat full = some sib ∧
      sib.isDir = false ∧ sib.size ≠ 0 := by
  unfold overrideImmutable at h
  split at h
  · cases h
  · rename_i full w hcut
    split at h
    · cases h
    · rename_i v hv
      split at h
      · cases h
      · rename_i sib hst
        simp only [Bool.and_eq_true, Bool.not_eq_true', bne_iff_ne, ne_eq] at h
        exact ⟨full, w, v, sib, hcut, hv, hst, h.1, h.2⟩

theorem cutSuffix_some {s suf full : Bytes} (h : cutSuffix s suf = some full) : s = full ++ suf := by
  unfold cutSuffix at h
  split at h
  · rename_i hs
    simp only [hasSuffix, Bool.and_eq_true, beq_iff_eq] at hs
    have := List.take_append_drop (s.length - suf.length) s
    rw [Option.some.inj h, hs.2] at this
    exact this.symm
  · cases h

theorem trimSuffix_join (pfx full : Bytes) : trimSuffix (join pfx (full ++ dotP)) dotP = join pfx full := by
  unfold trimSuffix cutSuffix join
  rw [show pfx ++ 47 :: (full ++ dotP) = (pfx ++ 47 :: full) ++ dotP by simp, hasSuffix_append]
  exact take_append_sub_length _ _

theorem join_partial (pfx full q : Bytes) : join (join pfx (full ++ dotP)) q = join pfx full ++ dotPSlash ++ q := by
  simp [join, show dotP = [46, 112] by decide, show dotPSlash = [46, 112, 47] by decide]

/-! ### the right-edge arithmetic -/

theorem wrap_pow (k : Nat) (hk : k ≤ 6) : wrap64 (1 * 2 ^ (8 * (k + 1))) = ((256 ^ (k + 1) : Nat) : Int) := by
  have h : (2 : Int) ^ (8 * (k + 1)) = ((256 ^ (k + 1) : Nat) : Int) := by
    rw [Int.pow_mul, Int.natCast_pow]; rfl
  have hb : 256 ^ (k + 1) ≤ 256 ^ 7 := Nat.pow_le_pow_right (by decide) (by omega)
  rw [Int.one_mul, h]
  generalize 256 ^ (k + 1) = m at hb ⊢
  exact wrap64_id (by omega) (by omega)

theorem tileSize_eval (L : Int) (hL : L ≤ 6) :
    tileSizeExpr.eval (env1 L) = some ((256 ^ ((Max.max 0 L).toNat + 1) : Nat) : Int) := by
  have hk : (Max.max 0 L).toNat ≤ 6 := by omega
  have hm : Max.max 0 L = (((Max.max 0 L).toNat : Nat) : Int) := by omega
  generalize (Max.max 0 L).toNat = k at hk hm
  simp only [tileSizeExpr, Expr.eval, env1, bind, Option.bind, hm]
  rw [wrap64_id (x := (k : Int) + 1) (by omega) (by omega), wrap64_id (x := 8 * ((k : Int) + 1)) (by omega) (by omega)]
  simp only [shl64, if_neg (show ¬ 8 * ((k : Int) + 1) < 0 by omega), if_neg (show ¬ 8 * ((k : Int) + 1) ≥ 64 by omega)]
  rw [show (8 * ((k : Int) + 1)).toNat = 8 * (k + 1) by omega, wrap_pow k hk]

theorem levelGuard_eval (L : Int) : levelGuardExpr.eval (env1 L) = some (if L > 6 then 1 else 0) := by
  simp [levelGuardExpr, Expr.eval, env1, bind, Option.bind]

/-- the level guard `t.L > 6` comes before the shift: it keeps the shift count below 64, hence the divisor nonzero, so
the arithmetic never panics -/
theorem atOrRightOfEdge_eq (t : Tile) (size : Nat) :
    atOrRightOfEdge t size = some (decide (6 < t.L ∨ ((size / 256 ^ (lvl t + 1) : Nat) : Int) ≤ t.N)) := by
  unfold atOrRightOfEdge
  rw [levelGuard_eval]
  by_cases h6 : t.L > 6
  · simp [h6]
  · have hne : (((256 ^ (lvl t + 1) : Nat) : Int)) ≠ 0 := by
      have : 0 < 256 ^ (lvl t + 1) := Nat.pow_pos (by decide)
      omega
    have hdiv : Int.tdiv (size : Int) ((256 ^ (lvl t + 1) : Nat) : Int) = ((size / 256 ^ (lvl t + 1) : Nat) : Int) := by
      rw [Int.tdiv_eq_ediv_of_nonneg (by omega)]
      exact (Int.natCast_ediv _ _).symm
    simp only [h6, if_false, tileSize_eval t.L (by omega), edgeGuardExpr, Expr.eval, env2, bind, Option.bind, goDiv]
    unfold lvl at hne hdiv ⊢
    simp only [hne, if_false, hdiv]
    simp

theorem atOrRightOfEdge_eq_false {t : Tile} {size : Nat} (h : atOrRightOfEdge t size = some false) :
    t.L ≤ 6 ∧ t.N < ((size / 256 ^ (lvl t + 1) : Nat) : Int) := by
  rw [atOrRightOfEdge_eq] at h
  simpa [Int.not_le, Int.not_lt] using h

theorem atOrRightOfEdge_ne_none (t : Tile) (size : Nat) : atOrRightOfEdge t size ≠ none := by
  rw [atOrRightOfEdge_eq]; simp

/-! ### every deletion of the walk is justified by the guards -/

section Walk
variable (fs : FS) (parse : Bytes → Option Tile) (size : Nat)

/-- the directory `full.p` in `pfx` is superseded: `full` is listed next to it and parses as a tile
strictly left of the edge -/
structure Superseded (pfx full : Bytes) (entries : List Ent) (t : Tile) : Prop where
  listed : fs.readDir pfx = some entries
  sibling : full ∈ entries.map (·.name)
  parses : parse (join pfx full) = some t
  left_of_edge : atOrRightOfEdge t size = some false

/-- why a file is deleted: all guards of `cleanDir` and `overrideImmutable`, as evaluated -/
def FileJustified (p : Bytes) : Prop :=
  ∃ (pfx full q : Bytes) (entries : List Ent) (t t' : Tile),
    Superseded fs parse size pfx full entries t ∧ p = join (join pfx (full ++ dotP)) q ∧
    parse p = some t' ∧ t'.W ≠ 256 ∧ overrideImmutable fs p = true

/-- why a directory is removed: it is a superseded `.p` directory and every entry listed in it has been deleted -/
def DirJustified (all : List Del) (d : Bytes) : Prop :=
  ∃ (pfx full : Bytes) (entries partials : List Ent) (t : Tile),
    Superseded fs parse size pfx full entries t ∧ d = join pfx (full ++ dotP) ∧
    fs.readDir d = some partials ∧ ∀ e ∈ partials, Del.file (join d e.name) ∈ all

def Justified (all : List Del) : Del → Prop
  | .file p => FileJustified fs parse size p
  | .dir d => DirJustified fs parse size all d

variable {fs parse size} in
theorem Justified.mono {all all' : List Del} {d : Del} (h : Justified fs parse size all d)
    (hsub : ∀ x ∈ all, x ∈ all') : Justified fs parse size all' d := by
  cases d with
  | file p => exact h
  | dir d =>
    obtain ⟨pfx, full, es, ps, t, h1, h2, h3, h4⟩ := h
    exact ⟨pfx, full, es, ps, t, h1, h2, h3, fun e he => hsub _ (h4 e he)⟩

def AllJustified (l : List Del) : Prop := ∀ d ∈ l, Justified fs parse size l d

variable {fs parse size} in
theorem AllJustified.append {l1 l2 : List Del} (h1 : AllJustified fs parse size l1) (h2 : AllJustified fs parse size l2) :
    AllJustified fs parse size (l1 ++ l2) := by
  intro d hd
  rcases List.mem_append.mp hd with h | h
  · exact Justified.mono (h1 d h) (fun x hx => List.mem_append_left _ hx)
  · exact Justified.mono (h2 d h) (fun x hx => List.mem_append_right _ hx)

variable {fs parse size} in
theorem AllJustified.nil : AllJustified fs parse size [] := by intro d hd; cases hd

theorem cleanPartials_spec (dirName : Bytes) : ∀ (ps : List Ent),
    (∀ d ∈ (cleanPartials fs parse dirName ps).1, ∃ e ∈ ps, d = Del.file (join dirName e.name) ∧
        ∃ t', parse (join dirName e.name) = some t' ∧ t'.W ≠ 256 ∧ overrideImmutable fs (join dirName e.name) = true) ∧
    ((cleanPartials fs parse dirName ps).2 = .ok → ∀ e ∈ ps, Del.file (join dirName e.name) ∈ (cleanPartials fs parse dirName ps).1) := by
  intro ps
  induction ps with
  | nil => simp [cleanPartials]
  | cons e rest ih =>
    simp only [cleanPartials]
    split
    · simp
    · rename_i t' ht'
      by_cases hw : t'.W = 256
      · simp [hw]
      · by_cases ho : overrideImmutable fs (join dirName e.name) = true
        · by_cases hr : removable fs (join dirName e.name) e = true
          · simp only [hw, ho, hr, if_false, Bool.not_true]
            constructor
            · intro d hd
              rcases List.mem_cons.mp hd with h | h
              · exact ⟨e, by simp, h, t', ht', hw, ho⟩
              · obtain ⟨e', he', hrest⟩ := ih.1 d h
                exact ⟨e', by simp [he'], hrest⟩
            · intro hok e' he'
              rcases List.mem_cons.mp he' with h | h
              · rw [h]; simp
              · exact List.mem_cons_of_mem _ (ih.2 hok e' h)
          · simp [hw, ho, hr]
        · simp [hw, ho]

theorem cleanEntries_justified (recur : Bytes → Res) (pfx : Bytes) (entries : List Ent) (hdir : fs.readDir pfx = some entries)
    (hrec : ∀ p, AllJustified fs parse size (recur p).1) : ∀ (es : List Ent),
    AllJustified fs parse size (cleanEntries recur fs parse size pfx (entries.map (·.name)) es).1 := by
  intro es
  induction es with
  | nil => exact AllJustified.nil
  | cons e rest ih =>
    simp only [cleanEntries]
    split
    · -- x-prefixed: recursion
      split
      · exact AllJustified.append (hrec _) ih
      · exact hrec _
    · split
      · exact ih
      · rename_i full hfull
        split
        · exact ih
        · rename_i hin
          rw [cutSuffix_some hfull, trimSuffix_join]
          split
          · exact AllJustified.nil
          · rename_i t ht
            split
            · exact AllJustified.nil
            · exact ih
            · rename_i hedge
              have hsup : Superseded fs parse size pfx full entries t := ⟨hdir, by simpa using hin, ht, hedge⟩
              split
              · exact AllJustified.nil
              · rename_i partials hparts
                have hspec := cleanPartials_spec fs parse (join pfx (full ++ dotP)) partials
                have hfiles : AllJustified fs parse size (cleanPartials fs parse (join pfx (full ++ dotP)) partials).1 := by
                  intro d hd
                  obtain ⟨e', _, rfl, t', ht', hw, ho⟩ := hspec.1 d hd
                  exact ⟨pfx, full, e'.name, entries, t, t', hsup, rfl, ht', hw, ho⟩
                split
                · -- the files of the `.p` directory, the emptied directory itself, then the rest
                  rename_i hok
                  intro d hd
                  rcases List.mem_append.mp hd with h | h
                  · exact Justified.mono (hfiles d h) (fun x hx => List.mem_append_left _ hx)
                  · rcases List.mem_cons.mp h with rfl | h
                    · exact ⟨pfx, full, entries, partials, t, hsup, rfl, hparts,
                        fun e' he' => List.mem_append_left _ (hspec.2 hok e' he')⟩
                    · exact Justified.mono (ih d h) (fun x hx => List.mem_append_right _ (List.mem_cons_of_mem _ hx))
                · -- aborted inside the `.p` directory: only files were deleted
                  exact hfiles

theorem cleanDir_justified : ∀ (fuel : Nat) (pfx : Bytes),
    AllJustified fs parse size (cleanDir fs parse size fuel pfx).1 := by
  intro fuel
  induction fuel with
  | zero => intro pfx; simp only [cleanDir]; exact AllJustified.nil
  | succ n ih =>
    intro pfx
    simp only [cleanDir]
    split
    · exact AllJustified.nil
    · rename_i entries hdir
      exact cleanEntries_justified fs parse size _ pfx entries hdir ih entries

theorem cleanLevels_justified (fuel : Nat) : ∀ (lv : List Ent),
    AllJustified fs parse size (cleanLevels fs parse size fuel lv).1 := by
  intro lv
  induction lv with
  | nil => simp only [cleanLevels]; exact AllJustified.nil
  | cons l rest ih =>
    simp only [cleanLevels]
    split
    · exact AllJustified.append (cleanDir_justified fs parse size fuel _) ih
    · exact cleanDir_justified fs parse size fuel _

theorem cleanRoot_justified (fuel : Nat) :
    AllJustified fs parse size (cleanRoot fs parse size fuel).1 := by
  unfold cleanRoot
  split
  · exact AllJustified.nil
  · exact cleanLevels_justified fs parse size fuel _

end Walk

theorem mem_filesOf {l : List Del} {p : Bytes} : p ∈ filesOf l ↔ Del.file p ∈ l := by
  induction l with
  | nil => simp [filesOf]
  | cons d rest ih =>
    cases d with
    | file q => simp [filesOf, ih]
    | dir q => simp [filesOf, ih]

/-- what a deleted file `p` is: the partial tile `t` in the directory `full.p` of `dir`, next to a full sibling that
is a non-empty regular file, strictly left of the right edge of the tree of size `size` -/
structure DeletedFile (fs : FS) (parse : Bytes → Option Tile) (size : Nat) (p dir full : Bytes) (t : Tile)
    (entries : List Ent) (sib : Ent) : Prop where
  path : p = join (join dir (full ++ dotP)) (fmtInt t.W)
  parses : parse p = some t
  W_pos : 1 ≤ t.W
  W_lt : t.W < 256
  listed : fs.readDir dir = some entries
  sibling : full ∈ entries.map (·.name)
  full_parses : parse (join dir full) = some { t with W := 256 }
  cut : cutSub dotPSlash p = some (join dir full, fmtInt t.W)
  stat : fs.stat (join dir full) = some sib
  regular : sib.isDir = false
  nonempty : 0 < sib.size
  level : t.L ≤ 6
  left_of_edge : t.N < ((size / 256 ^ (lvl t + 1) : Nat) : Int)

theorem cleanRoot_deletedFile {parse : Bytes → Option Tile} (hp : IsToolParser parse) (fs : FS) (size fuel : Nat)
    {p : Bytes} (h : p ∈ filesOf (cleanRoot fs parse size fuel).1) :
    ∃ dir full t entries sib, DeletedFile fs parse size p dir full t entries sib := by
  obtain ⟨pfx, full, q, entries, t0, t', hsup, hpeq, ht', hw, hov⟩ :=
    cleanRoot_justified fs parse size fuel _ (mem_filesOf.mp h)
  rw [join_partial] at hpeq
  subst hpeq
  obtain ⟨rfl, hnodot, rfl⟩ := parser_sibling hp hsup.parses ht' hw
  obtain ⟨d, _⟩ := tileDom_iff.mp (parser_dom hp _ t' ht')
  have hcut := cutSub_dotPSlash _ (fmtInt t'.W) hnodot
  -- `overrideImmutable` cuts the name at the same place, so it has looked at the same sibling
  obtain ⟨_, _, _, sib, hcut', _, hst, hfile, hsize⟩ := overrideImmutable_true hov
  obtain ⟨rfl, -⟩ := Prod.mk.inj (Option.some.inj (hcut.symm.trans hcut'))
  obtain ⟨hL, hN⟩ := atOrRightOfEdge_eq_false hsup.left_of_edge
  exact ⟨pfx, full, t', entries, sib,
    { path := (join_partial _ _ _).symm, parses := ht', W_pos := d.W_pos, W_lt := by have := d.W_le; omega,
      listed := hsup.listed, sibling := hsup.sibling, full_parses := hsup.parses, cut := hcut, stat := hst, regular := hfile,
      nonempty := by omega, level := hL, left_of_edge := hN }⟩

end Aftersun
