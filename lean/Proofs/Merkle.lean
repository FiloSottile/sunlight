import Model.MerkleMore
/-! torchwood's subtree-proof runner is the general one: tlog's consistency proof of `[lo, hi)` over `[lo, n)` is the
subtree proof for that prefix (`runTreeProof_eq`; tlog's test `lo == 0` is torchwood's flag `b`: the caller holds the
subtree's hash), and tlog's inclusion proof of leaf `n` is the subtree proof for `[n, n+1)`, which hands the leaf hash
through (`runRecordProof_eq`). So soundness is proved once, in `runSubtreeProof_sound`: walking down from a node whose
hash is the true one, `NodeInj` makes every child hash on the way the true one. Completeness likewise
(`runSubtreeProof_complete`, with `treeProofAux_eq` / `recordProofAux_eq` for the provers). -/
namespace Merkle
variable {H : Type} (node : H → H → H) (empty : H)

theorem split_unique {m a : Nat} (h1 : 2 ^ a < m) (h2 : m ≤ 2 ^ (a + 1)) : split m = 2 ^ a := by
  unfold split
  congr 1
  exact (Nat.log2_eq_iff (by omega)).2 ⟨by omega, by omega⟩

theorem mth_nil : mth node empty ([] : List H) = empty := by rw [mth]

theorem mth_singleton (x : H) : mth node empty [x] = x := by rw [mth]

theorem mth_induction {P : List H → Prop} (nil : P []) (one : ∀ x, P [x])
    (step : ∀ xs : List H, 2 ≤ xs.length →
      P (xs.take (split xs.length)) → P (xs.drop (split xs.length)) → P xs) (xs : List H) : P xs :=
  mth.induct P nil one (fun x y rest h1 h2 => step (x :: y :: rest) (Nat.le_add_left 2 _) h1 h2) xs

theorem rng_zero (B : List H) (t : Nat) : rng B 0 t = B.take t := rfl

theorem rng_zero_length (B : List H) : rng B 0 B.length = B := List.take_length

theorem rng_singleton (B : List H) {i : Nat} (h : i < B.length) : rng B i (i + 1) = [B[i]] := by
  unfold rng
  rw [Nat.add_sub_cancel_left, List.drop_eq_getElem_cons h]
  rfl

theorem getElem?_rng (B : List H) {lo hi i : Nat} (h : lo + i < hi) : (rng B lo hi)[i]? = B[lo + i]? := by
  unfold rng
  rw [List.getElem?_take_of_lt (by omega), List.getElem?_drop]

theorem rng_rng (B : List H) {lo hi u v : Nat} (h : lo + v ≤ hi) :
    rng (rng B lo hi) u v = rng B (lo + u) (lo + v) := by
  unfold rng
  rw [List.drop_take, List.take_take, List.drop_drop]
  congr 1
  omega

theorem rng_of_drop (B : List H) (a u v : Nat) : rng (B.drop a) u v = rng B (a + u) (a + v) := by
  unfold rng
  rw [List.drop_drop]
  congr 1
  omega

theorem mth_rng_unfold (B : List H) {lo hi : Nat} (h3 : hi ≤ B.length) (hlen : 2 ≤ hi - lo) :
    mth node empty (rng B lo hi) =
      node (mth node empty (rng B lo (lo + split (hi - lo))))
           (mth node empty (rng B (lo + split (hi - lo)) hi)) := by
  have hk1 := split_lt hlen
  have hl := rng_length B h3 (by omega : lo ≤ hi)
  rw [mth_unfold node empty _ (by omega), hl]
  rw [rng_take B (by omega), rng_drop B (by omega)]

/-- A prefix `[lo,n)` that reaches beyond the split point of `[lo,hi)` splits at that same point
(`split_eq_of_between`): the old tree of a consistency proof. -/
theorem mth_rng_unfold_prefix (B : List H) {lo n hi : Nat} (h3 : hi ≤ B.length)
    (h1 : lo + split (hi - lo) < n) (h2 : n ≤ hi) :
    mth node empty (rng B lo n) =
      node (mth node empty (rng B lo (lo + split (hi - lo))))
           (mth node empty (rng B (lo + split (hi - lo)) n)) := by
  have hk0 := split_pos (hi - lo)
  have := mth_rng_unfold node empty B (lo := lo) (hi := n) (by omega) (by omega)
  rwa [split_eq_of_between (n := hi - lo) (m := n - lo) (by omega) (by omega) (by omega)] at this

variable {node empty} in
theorem children_of_node_eq (inj : NodeInj node) (B : List H) {lo hi : Nat} (h3 : hi ≤ B.length)
    (hlen : 2 ≤ hi - lo) {a b : H} (h : node a b = mth node empty (rng B lo hi)) :
    a = mth node empty (rng B lo (lo + split (hi - lo))) ∧
      b = mth node empty (rng B (lo + split (hi - lo)) hi) :=
  inj _ _ _ _ (h.trans (mth_rng_unfold node empty B h3 hlen))

/-! ### injectivity: at equal sizes from `NodeInj` alone, at all sizes with the separation clauses -/

theorem mth_inj (inj : NodeInj node) :
    ∀ a b : List H, a.length = b.length → mth node empty a = mth node empty b → a = b := by
  intro a
  induction a using mth_induction with
  | nil => intro b hl _; exact (List.length_eq_zero_iff.1 hl.symm).symm
  | one x =>
    intro b hl h
    match b, hl with
    | [y], _ => rw [mth_singleton, mth_singleton] at h; rw [h]
  | step a h2 ih1 ih2 =>
    intro b hl h
    rw [mth_unfold node empty a h2, mth_unfold node empty b (hl ▸ h2), ← hl] at h
    obtain ⟨e1, e2⟩ := inj _ _ _ _ h
    rw [← List.take_append_drop (split a.length) a, ← List.take_append_drop (split a.length) b,
      ih1 _ (by simp [hl]) e1, ih2 _ (by simp [hl]) e2]

variable {node empty} in
theorem mth_inj_short {isLeaf : H → Prop} (cf : CollisionFree node empty isLeaf) :
    ∀ {a b : List H}, (∀ x ∈ a, isLeaf x) → (∀ x ∈ b, isLeaf x) → a.length < 2 →
      mth node empty a = mth node empty b → a = b
  | [], [], _, _, _, _ => rfl
  | [], [y], _, lb, _, h => by
    rw [mth_nil, mth_singleton] at h
    exact absurd h.symm (cf.leaf_ne_empty y (lb y (List.mem_singleton.2 rfl)))
  | [], y :: z :: r, _, _, _, h => by
    rw [mth_nil, mth_unfold node empty _ (Nat.le_add_left 2 _)] at h
    exact absurd h (cf.empty_ne_node _ _)
  | [x], [], la, _, _, h => by
    rw [mth_nil, mth_singleton] at h
    exact absurd h (cf.leaf_ne_empty x (la x (List.mem_singleton.2 rfl)))
  | [x], [y], _, _, _, h => by
    rw [mth_singleton, mth_singleton] at h
    rw [h]
  | [x], y :: z :: r, la, _, _, h => by
    rw [mth_singleton, mth_unfold node empty _ (Nat.le_add_left 2 _)] at h
    exact absurd h (cf.leaf_ne_node x _ _ (la x (List.mem_singleton.2 rfl)))
  | _ :: _ :: _, _, _, _, hlt, _ => absurd hlt (by simp)

theorem mth_inj_of_collisionFree {isLeaf : H → Prop} (cf : CollisionFree node empty isLeaf) :
    ∀ a b : List H, (∀ x ∈ a, isLeaf x) → (∀ x ∈ b, isLeaf x) →
      mth node empty a = mth node empty b → a = b := by
  intro a
  induction a using mth_induction with
  | nil => intro b la lb h; exact mth_inj_short cf la lb Nat.zero_lt_two h
  | one x => intro b la lb h; exact mth_inj_short cf la lb Nat.one_lt_two h
  | step a ha2 ih1 ih2 =>
    intro b la lb h
    by_cases hb2 : 2 ≤ b.length
    · -- two interior nodes: equal children, by `node_inj`
      rw [mth_unfold node empty a ha2, mth_unfold node empty b hb2] at h
      obtain ⟨e1, e2⟩ := cf.node_inj _ _ _ _ h
      rw [← List.take_append_drop (split a.length) a, ← List.take_append_drop (split b.length) b,
        ih1 _ (fun x hx => la x (List.mem_of_mem_take hx)) (fun x hx => lb x (List.mem_of_mem_take hx)) e1,
        ih2 _ (fun x hx => la x (List.mem_of_mem_drop hx)) (fun x hx => lb x (List.mem_of_mem_drop hx)) e2]
    · exact (mth_inj_short cf lb la (Nat.lt_of_not_le hb2) h.symm).symm

/-! ### `bitCeil` is the smallest power of two at or above its argument -/

theorem le_bitCeil (n : Nat) : n ≤ bitCeil n := by
  unfold bitCeil bitsLen
  split
  · rw [Nat.pow_zero]; omega
  · have := Nat.lt_log2_self (n := n - 1); omega

theorem bitCeil_pow (n : Nat) : ∃ k, bitCeil n = 2 ^ k := ⟨bitsLen (n - 1), rfl⟩

theorem bitCeil_min {n k : Nat} (h : n ≤ 2 ^ k) : bitCeil n ≤ 2 ^ k := by
  unfold bitCeil bitsLen
  split
  · rw [Nat.pow_zero]; exact Nat.pow_pos (by decide)
  · rename_i hne
    apply Nat.pow_le_pow_right (by decide)
    have : (n - 1).log2 < k := (Nat.log2_lt hne).2 (by omega)
    omega

theorem bitCeil_dvd_split {m n : Nat} (h : m ≤ split n) : bitCeil m ∣ split n :=
  Nat.pow_dvd_pow 2 ((Nat.pow_le_pow_iff_right (by decide)).1 (bitCeil_min h))

theorem validSubtree_spec (s e : Nat) :
    validSubtree s e = true ↔ s < e ∧ e - s ≤ maxN ∧ s % bitCeil (e - s) = 0 := by
  unfold validSubtree
  split
  · constructor
    · intro h; cases h
    · intro ⟨h1, h2, _⟩; omega
  · have hmod : s &&& (bitCeil (e - s) - 1) = s % bitCeil (e - s) :=
      Nat.and_two_pow_sub_one_eq_mod _ _
    rw [hmod, beq_iff_eq]
    constructor
    · intro h; exact ⟨by omega, by omega, h⟩
    · intro ⟨_, _, h⟩; exact h

/-- torchwood's "subtree straddles the split, which implies start == lo": the second "bad math" panic of
`runSubtreeProof` is unreachable for a subtree aligned relative to `lo`. -/
theorem straddle_start {lo hi s e : Nat} (h1 : lo ≤ s)
    (hs : s < lo + split (hi - lo)) (he : lo + split (hi - lo) < e)
    (hal : bitCeil (e - s) ∣ s - lo) : s = lo := by
  apply Decidable.byContradiction
  intro hne
  -- otherwise `bitCeil (e - s)` divides both `s - lo` and the split, hence their difference, which is below `e - s`
  have hc := le_bitCeil (e - s)
  have hcle := Nat.le_of_dvd (by omega) hal
  have := Nat.le_of_dvd (by omega)
    (Nat.dvd_sub (bitCeil_dvd_split (n := hi - lo) (by omega)) hal)
  omega

theorem align_right {lo hi s e : Nat} (hlen : 2 ≤ hi - lo) (hse : s < e) (he : e ≤ hi)
    (hs : lo + split (hi - lo) ≤ s) (hal : bitCeil (e - s) ∣ s - lo) :
    bitCeil (e - s) ∣ s - (lo + split (hi - lo)) := by
  have hk2 := le_two_split hlen
  rw [← Nat.sub_sub]
  exact Nat.dvd_sub hal (bitCeil_dvd_split (by omega))

/-! ### `runSubtreeProof`: soundness, and tlog's two runners as instances of it -/

theorem runSubtreeProof_nil (lo hi s e : Nat) (b : Bool) (sh : H) :
    runSubtreeProof node [] lo hi s e b sh = if lo = s ∧ hi = e ∧ b = true then some (sh, sh) else none := by
  rw [runSubtreeProof]

theorem runSubtreeProof_cons (x : H) (rest : List H) {lo hi s e : Nat} (b : Bool) (sh : H)
    (hg : lo ≤ s ∧ s < e ∧ e ≤ hi) (hne : ¬(lo = s ∧ hi = e)) :
    runSubtreeProof node (x :: rest) lo hi s e b sh =
      if e ≤ lo + split (hi - lo) then
        (runSubtreeProof node rest lo (lo + split (hi - lo)) s e b sh).map fun r => (r.1, node r.2 x)
      else if lo + split (hi - lo) ≤ s then
        (runSubtreeProof node rest (lo + split (hi - lo)) hi s e b sh).map fun r => (r.1, node x r.2)
      else if s ≠ lo then none
      else (runSubtreeProof node rest (lo + split (hi - lo)) hi (lo + split (hi - lo)) e false sh).map
        fun r => (node x r.1, node x r.2) := by
  simp only [runSubtreeProof]
  rw [if_neg (fun h => h hg), if_neg hne]
  split
  · cases runSubtreeProof node rest lo (lo + split (hi - lo)) s e b sh <;> rfl
  · split
    · cases runSubtreeProof node rest (lo + split (hi - lo)) hi s e b sh <;> rfl
    · split
      · rfl
      · cases runSubtreeProof node rest (lo + split (hi - lo)) hi (lo + split (hi - lo)) e false sh <;> rfl

theorem runSubtreeProof_self (x : H) (rest : List H) {s e : Nat} (b : Bool) (sh : H) (h : s < e) :
    runSubtreeProof node (x :: rest) s e s e b sh =
      if b = false ∧ rest = [] then some (x, x) else none := by
  cases b <;> simp [runSubtreeProof, h]

variable {node empty} in
theorem runSubtreeProof_sound (inj : NodeInj node) (B : List H) {p : List H} {lo hi s e : Nat} {b : Bool}
    {sh sh2 nh : H} (h1 : lo ≤ s) (h2 : s < e) (h3 : e ≤ hi) (h4 : hi ≤ B.length)
    (hr : runSubtreeProof node p lo hi s e b sh = some (sh2, nh)) (ht : nh = mth node empty (rng B lo hi)) :
    sh2 = mth node empty (rng B s e) := by
  induction p generalizing lo hi s e b sh2 nh with
  | nil =>
    -- at the subtree, whose hash the caller holds
    rw [runSubtreeProof_nil] at hr
    split at hr <;> cases hr
    obtain ⟨rfl, rfl, _⟩ := ‹lo = s ∧ hi = e ∧ b = true›
    exact ht
  | cons x rest ih =>
    by_cases hat : lo = s ∧ hi = e
    · -- at the subtree: `x` is its hash
      obtain ⟨rfl, rfl⟩ := hat
      rw [runSubtreeProof_self node x rest b sh h2] at hr
      split at hr <;> cases hr
      exact ht
    rw [runSubtreeProof_cons node x rest b sh ⟨h1, h2, h3⟩ hat] at hr
    have hlen : 2 ≤ hi - lo := by omega
    by_cases hle : e ≤ lo + split (hi - lo)
    · have hk1 := split_lt hlen
      rw [if_pos hle] at hr
      obtain ⟨r, hrec, heq⟩ := Option.map_eq_some_iff.1 hr
      cases heq
      exact ih h1 h2 hle (by omega) hrec (children_of_node_eq inj B h4 hlen ht).1
    by_cases hge : lo + split (hi - lo) ≤ s
    · rw [if_neg hle, if_pos hge] at hr
      obtain ⟨r, hrec, heq⟩ := Option.map_eq_some_iff.1 hr
      cases heq
      exact ih hge h2 h3 h4 hrec (children_of_node_eq inj B h4 hlen ht).2
    -- the subtree straddles the split; the runner answers `none` unless it starts at `lo`, and then its left half is the left child
    rw [if_neg hle, if_neg hge] at hr
    split at hr
    · cases hr
    obtain rfl : s = lo := Decidable.not_not.1 ‹¬s ≠ lo›
    obtain ⟨r, hrec, heq⟩ := Option.map_eq_some_iff.1 hr
    cases heq
    obtain ⟨e1, e2⟩ := children_of_node_eq inj B h4 hlen ht
    rw [mth_rng_unfold_prefix node empty B h4 (by omega) h3, ← e1, ← ih (Nat.le_refl _) (by omega) h3 h4 hrec e2]

variable {node empty} in
theorem runSubtreeProof_sound_root (inj : NodeInj node) {B p : List H} {s e : Nat} {b : Bool} {sh sh2 : H}
    (h2 : s < e) (h3 : e ≤ B.length)
    (hr : runSubtreeProof node p 0 B.length s e b sh = some (sh2, mth node empty B)) :
    sh2 = mth node empty (rng B s e) :=
  runSubtreeProof_sound inj B (Nat.zero_le s) h2 h3 (Nat.le_refl _) hr (by rw [rng_zero_length])

theorem runTreeProof_eq (old : H) (n : Nat) : ∀ (p : List H) (lo hi : Nat), lo < n → n ≤ hi →
    runTreeProof node p lo hi n old = runSubtreeProof node p lo hi lo n (decide (lo = 0)) old := by
  intro p
  induction p with
  | nil =>
    intro lo hi _ _
    simp [runTreeProof, runSubtreeProof_nil, eq_comm]
  | cons x rest ih =>
    intro lo hi h1 h2
    by_cases hnh : n = hi
    · subst hnh
      rw [runSubtreeProof_self node x rest _ old h1]
      by_cases h0 : lo = 0 <;> simp [runTreeProof, h0]
    · have hk0 := split_pos (hi - lo)
      rw [runSubtreeProof_cons node x rest _ old ⟨Nat.le_refl _, h1, h2⟩ (by omega)]
      simp only [runTreeProof, if_neg hnh]
      split
      · rename_i hle
        rw [ih lo _ h1 hle]
        cases runSubtreeProof node rest lo (lo + split (hi - lo)) lo n (decide (lo = 0)) old <;> rfl
      · rw [if_neg (by omega), if_neg (by simp), ih _ hi (by omega) h2,
          decide_eq_false (by omega : ¬ lo + split (hi - lo) = 0)]
        cases runSubtreeProof node rest (lo + split (hi - lo)) hi (lo + split (hi - lo)) n false old <;> rfl

theorem runRecordProof_eq (leaf : H) (n : Nat) : ∀ (p : List H) (lo hi : Nat), lo ≤ n → n < hi →
    runSubtreeProof node p lo hi n (n + 1) true leaf =
      (runRecordProof node p lo hi n leaf).map fun th => (leaf, th) := by
  intro p
  induction p with
  | nil =>
    intro lo hi h1 h2
    have : (lo = n ∧ hi = n + 1) ↔ lo + 1 = hi := by omega
    simp [runRecordProof, runSubtreeProof_nil, this]
  | cons x rest ih =>
    intro lo hi h1 h2
    simp only [runRecordProof]
    rw [if_neg (not_not_intro ⟨h1, h2⟩)]
    by_cases hc : lo + 1 = hi
    · obtain rfl : lo = n := by omega
      subst hc
      rw [if_pos rfl, runSubtreeProof_self node x rest true leaf (Nat.lt_add_one _)]
      rfl
    · have hk0 := split_pos (hi - lo)
      rw [if_neg hc, runSubtreeProof_cons node x rest true leaf ⟨h1, Nat.lt_add_one _, h2⟩ (by omega)]
      by_cases hlt : n < lo + split (hi - lo)
      · rw [if_pos (show n + 1 ≤ _ from hlt), if_pos hlt, ih lo _ h1 hlt]
        cases runRecordProof node rest lo (lo + split (hi - lo)) n leaf <;> rfl
      · rw [if_neg (show ¬ n + 1 ≤ _ from hlt), if_pos (by omega), if_neg hlt, ih _ hi (by omega) h2]
        cases runRecordProof node rest (lo + split (hi - lo)) hi n leaf <;> rfl

/-! ### the three checkers: a guard, then the general runner from the root

(for `checkTree` and `checkRecord` through `runTreeProof_eq` and `runRecordProof_eq`) -/

section
variable [DecidableEq H] {node} {p : List H} {t s e n : Nat} {th sh h : H}

theorem checkSubtree_iff : checkSubtree node p t th s e sh = true ↔
    (validSubtree s e = true ∧ e ≤ t ∧ t ≤ maxN) ∧ runSubtreeProof node p 0 t s e true sh = some (sh, th) := by
  unfold checkSubtree
  split
  · rename_i hg
    refine ⟨nofun, fun ⟨⟨hv, he, ht⟩, _⟩ => ?_⟩
    simp only [hv, Bool.true_eq_false, or_false] at hg
    omega
  · rename_i hg
    have hg' : validSubtree s e = true ∧ e ≤ t ∧ t ≤ maxN :=
      ⟨by simpa using fun hv => hg (Or.inr (Or.inr hv)), by omega, by omega⟩
    cases runSubtreeProof node p 0 t s e true sh with
    | none => simp
    | some r => simp [hg', Prod.ext_iff]

theorem checkTree_iff_runSubtreeProof : checkTree node p t th n h = true ↔
    (0 < n ∧ n ≤ t) ∧ runSubtreeProof node p 0 t 0 n true h = some (h, th) := by
  unfold checkTree
  split
  · exact ⟨nofun, fun h => by omega⟩
  · rename_i hg
    rw [runTreeProof_eq node h n p 0 t (by omega) (by omega), show decide (0 = 0) = true from rfl]
    have hg' : 0 < n ∧ n ≤ t := by omega
    cases runSubtreeProof node p 0 t 0 n true h with
    | none => simp
    | some r => simp [hg', Prod.ext_iff, and_comm]

theorem checkRecord_iff_runSubtreeProof : checkRecord node p t th n h = true ↔
    n < t ∧ runSubtreeProof node p 0 t n (n + 1) true h = some (h, th) := by
  unfold checkRecord
  split
  · exact ⟨nofun, fun h => by omega⟩
  · rename_i hg
    rw [runRecordProof_eq node h n p 0 t (Nat.zero_le _) (by omega)]
    cases runRecordProof node p 0 t n h with
    | none => simp
    | some r => simp [Nat.lt_of_not_le hg]

end

theorem checkSubtree_sound [DecidableEq H] (inj : NodeInj node) (p : List H) (t : Nat) (th : H)
    (s e : Nat) (sh : H) (hc : checkSubtree node p t th s e sh = true) :
    ∀ B : List H, B.length = t → mth node empty B = th → subtreeHash node empty B s e = sh := by
  intro B hB hroot
  obtain ⟨⟨hv, he, _⟩, hr⟩ := checkSubtree_iff.1 hc
  subst hB hroot
  exact (runSubtreeProof_sound_root inj ((validSubtree_spec s e).1 hv).1 he hr).symm

theorem checkTree_sound [DecidableEq H] (inj : NodeInj node) (p : List H) (t n : Nat) (th h : H)
    (hc : checkTree node p t th n h = true) :
    ∀ B : List H, B.length = t → mth node empty B = th → mth node empty (B.take n) = h := by
  intro B hB hroot
  obtain ⟨⟨h0, hn⟩, hr⟩ := checkTree_iff_runSubtreeProof.1 hc
  subst hB hroot
  exact (runSubtreeProof_sound_root inj h0 hn hr).symm

theorem checkRecord_sound [DecidableEq H] (inj : NodeInj node) (p : List H) (t : Nat) (th : H)
    (n : Nat) (h : H) (hc : checkRecord node p t th n h = true) :
    ∀ B : List H, B.length = t → mth node empty B = th → B[n]? = some h := by
  intro B hB hroot
  obtain ⟨hn, hr⟩ := checkRecord_iff_runSubtreeProof.1 hc
  subst hB hroot
  rw [runSubtreeProof_sound_root inj (Nat.lt_add_one n) hn hr, rng_singleton B hn, mth_singleton,
    List.getElem?_eq_getElem hn]

/-! ### completeness against the reference provers (model sanity: the checkers accept) -/

theorem runSubtreeProof_complete (B : List H) (sh : H) {fuel lo hi s e : Nat} {b : Bool}
    (h1 : lo ≤ s) (h2 : s < e) (h3 : e ≤ hi) (h4 : hi ≤ B.length) (h5 : hi - lo < fuel)
    (hal : bitCeil (e - s) ∣ s - lo) (hsh : b = true → sh = mth node empty (rng B s e)) :
    runSubtreeProof node (subtreeProofAux node empty B fuel lo hi s e b) lo hi s e b sh =
      some (mth node empty (rng B s e), mth node empty (rng B lo hi)) := by
  induction fuel generalizing lo hi s e b with
  | zero => omega
  | succ fuel ih =>
    rw [subtreeProofAux]
    by_cases hat : lo = s ∧ hi = e
    · rw [if_pos hat]
      obtain ⟨rfl, rfl⟩ := hat
      cases b with
      | true =>
        -- at the subtree, whose hash the caller holds
        rw [if_pos rfl, runSubtreeProof_nil, if_pos ⟨rfl, rfl, rfl⟩, hsh rfl]
      | false =>
        -- at the subtree: the proof is its hash
        rw [if_neg Bool.false_ne_true, runSubtreeProof_self node _ _ _ _ h2, if_pos ⟨rfl, rfl⟩]
    have hlen : 2 ≤ hi - lo := by omega
    have hk0 := split_pos (hi - lo)
    have hcons := fun x rest => runSubtreeProof_cons node x rest b sh ⟨h1, h2, h3⟩ hat
    rw [if_neg hat]
    by_cases hle : e ≤ lo + split (hi - lo)
    · have hk1 := split_lt hlen
      rw [if_pos hle, hcons, if_pos hle, ih h1 h2 hle (by omega) (by omega) hal hsh,
        mth_rng_unfold node empty B h4 hlen]
      rfl
    by_cases hge : lo + split (hi - lo) ≤ s
    · rw [if_neg hle, if_pos hge, hcons, if_neg hle, if_pos hge,
        ih hge h2 h3 h4 (by omega) (align_right hlen h2 h3 hge hal) hsh, mth_rng_unfold node empty B h4 hlen]
      rfl
    -- the subtree straddles the split, so (being aligned, `hal`: what `validSubtree` gives at the root and
    -- `align_right` keeps on the way down) it starts at `lo`; its left half is the left child
    obtain rfl : s = lo := straddle_start (hi := hi) h1 (by omega) (by omega) hal
    rw [if_neg hle, if_neg hge, hcons, if_neg hle, if_neg hge, if_neg (by simp),
      ih (b := false) (Nat.le_refl _) (by omega) h3 h4 (by omega) (by rw [Nat.sub_self]; exact Nat.dvd_zero _) nofun,
      mth_rng_unfold node empty B h4 hlen, mth_rng_unfold_prefix node empty B (lo := s) h4 (by omega) h3]
    rfl

theorem runSubtreeProof_complete_root (B : List H) {t s e : Nat} (hse : s < e) (he : e ≤ t) (ht : t ≤ B.length)
    (hal : bitCeil (e - s) ∣ s) :
    runSubtreeProof node (proveSubtree node empty B t s e) 0 t s e true (mth node empty (rng B s e)) =
      some (mth node empty (rng B s e), mth node empty (B.take t)) :=
  runSubtreeProof_complete node empty B _ (Nat.zero_le _) hse he ht (Nat.lt_succ_self _) hal (fun _ => rfl)

theorem checkSubtree_complete [DecidableEq H] (B : List H) (t s e : Nat)
    (hv : validSubtree s e = true) (he : e ≤ t) (ht : t ≤ B.length) (hm : t ≤ maxN) :
    checkSubtree node (proveSubtree node empty B t s e) t (mth node empty (B.take t)) s e
      (subtreeHash node empty B s e) = true := by
  obtain ⟨hse, _, hmod⟩ := (validSubtree_spec s e).1 hv
  exact checkSubtree_iff.2
    ⟨⟨hv, he, hm⟩, runSubtreeProof_complete_root node empty B hse he ht (Nat.dvd_of_mod_eq_zero hmod)⟩

theorem treeProofAux_eq (B : List H) (n : Nat) : ∀ (fuel lo hi : Nat), lo < n → n ≤ hi →
    treeProofAux node empty B fuel lo hi n =
      subtreeProofAux node empty B fuel lo hi lo n (decide (lo = 0)) := by
  intro fuel
  induction fuel with
  | zero => intros; rfl
  | succ fuel ih =>
    intro lo hi h1 h2
    have hk0 := split_pos (hi - lo)
    rw [treeProofAux, subtreeProofAux]
    by_cases hnh : n = hi
    · simp [hnh]
    · rw [if_neg hnh, if_neg (show ¬(lo = lo ∧ hi = n) from fun h => hnh h.2.symm)]
      by_cases hle : n ≤ lo + split (hi - lo)
      · rw [if_pos hle, if_pos hle, ih lo _ h1 hle]
      · rw [if_neg hle, if_neg hle, if_neg (show ¬ lo + split (hi - lo) ≤ lo by omega), ih _ hi (by omega) h2,
          decide_eq_false (by omega : ¬ lo + split (hi - lo) = 0)]

theorem checkTree_complete [DecidableEq H] (B : List H) (t n : Nat) (h1 : 0 < n) (h2 : n ≤ t)
    (h3 : t ≤ B.length) :
    checkTree node (proveTree node empty B t n) t (mth node empty (B.take t)) n
      (mth node empty (B.take n)) = true := by
  rw [checkTree_iff_runSubtreeProof, proveTree, treeProofAux_eq node empty B n _ 0 t h1 h2]
  exact ⟨⟨h1, h2⟩, runSubtreeProof_complete_root node empty B h1 h2 h3 (Nat.dvd_zero _)⟩

theorem recordProofAux_eq (B : List H) (n : Nat) : ∀ (fuel lo hi : Nat), lo ≤ n → n < hi →
    recordProofAux node empty B fuel lo hi n =
      subtreeProofAux node empty B fuel lo hi n (n + 1) true := by
  intro fuel
  induction fuel with
  | zero => intros; rfl
  | succ fuel ih =>
    intro lo hi h1 h2
    rw [recordProofAux, subtreeProofAux]
    by_cases hc : lo + 1 = hi
    · rw [if_pos hc, if_pos (by omega), if_pos rfl]
    · rw [if_neg hc, if_neg (show ¬(lo = n ∧ hi = n + 1) by omega)]
      by_cases hlt : n < lo + split (hi - lo)
      · rw [if_pos hlt, if_pos (show n + 1 ≤ _ from hlt), ih lo _ h1 hlt]
      · rw [if_neg hlt, if_neg (show ¬ n + 1 ≤ _ from hlt), if_pos (by omega), ih _ hi (by omega) h2]

theorem checkRecord_complete [DecidableEq H] (B : List H) (t n : Nat) (hn : n < t)
    (ht : t ≤ B.length) :
    checkRecord node (proveRecord node empty B t n) t (mth node empty (B.take t)) n
      (B[n]?.getD empty) = true := by
  have hnB : n < B.length := by omega
  have hsub := runSubtreeProof_complete_root node empty B (Nat.lt_add_one n) hn ht (by simp [bitCeil, bitsLen])
  rw [rng_singleton B hnB, mth_singleton] at hsub
  rw [checkRecord_iff_runSubtreeProof, proveRecord, recordProofAux_eq node empty B n _ 0 t (Nat.zero_le _) hn,
    List.getElem?_eq_getElem hnB]
  exact ⟨hn, hsub⟩

end Merkle
