import Model.TorchwoodPath
import Proofs.TilePath
/-! Sunlight's `ParseTilePath` (`tile/names/…`) and torchwood's (`tile/entries/…`) through their common form `parseWith`:
`parseWith_eq_some` says which paths it accepts and what it returns; from that, sunlight's parser is the exact inverse of
its printer (`sunlightParse_eq_some`), and torchwood's is too but for one second spelling (`torchwoodParse_eq_some`). -/
namespace TilePath

theorem parseWith_eq_some {special : Bytes} {fixL : Option Int} {p : Bytes} {t : Tile} :
    parseWith special fixL p = some t ↔
      Dom8 t ∧
      ((p = special ++ nwPart t ∧ t.L = fixL.getD (-1)) ∨
       (cutPrefix p special = none ∧ p = ascii "tile/" ++ (levelStr t.L ++ 47 :: nwPart t) ∧
         -1 ≤ t.L ∧ t.L ≤ 9223372036854775807)) := by
  unfold parseWith
  cases hc : cutPrefix p special with
  | some rest =>
    obtain rfl := cutPrefix_some hc
    simp only [reduceCtorEq, false_and, or_false, List.append_cancel_left_eq]
    constructor
    · intro h
      split at h
      · cases h
      · rename_i u hu
        obtain ⟨rfl, d, hL⟩ := tlogParse_data.mp hu
        cases h
        cases fixL with
        | none => exact ⟨d, rfl, hL⟩
        | some l => exact ⟨d.setL l, rfl, rfl⟩
    · rintro ⟨d, rfl, hL⟩
      rw [(tlogParse_data (rest := nwPart t) (t := { t with L := -1 })).mpr ⟨rfl, d.setL (-1), rfl⟩]
      cases t
      cases fixL <;> cases hL <;> rfl
  | none =>
    simp only [true_and]
    constructor
    · intro h
      split at h
      · rename_i rest hc2
        obtain ⟨rfl, d, hL0, hL1⟩ := tlogParse_tile8.mp h
        exact ⟨d, Or.inr ⟨cutPrefix_some hc2, hL0, hL1⟩⟩
      · cases h
    · rintro ⟨d, ⟨rfl, _⟩ | ⟨rfl, hL0, hL1⟩⟩
      · rw [cutPrefix_append] at hc; cases hc
      · rw [cutPrefix_append]
        exact tlogParse_tile8.mpr ⟨rfl, d, hL0, hL1⟩

/-- a path `p` that `parseWith special fixL` reads as `t` (`parseWith_accepts`) is `head`, the part that gives the level,
followed by the N and W groups; with the W group left off it reads as the full tile -/
structure PathHead (special : Bytes) (fixL : Option Int) (p : Bytes) (t : Tile) (head : Bytes) : Prop where
  path : p = head ++ nwPart t
  head_eq : (head = special ∧ t.L = fixL.getD (-1)) ∨
    (head = ascii "tile/" ++ (levelStr t.L ++ [47]) ∧ -1 ≤ t.L ∧ t.L ≤ 9223372036854775807)
  full : parseWith special fixL (head ++ nStr t.N) = some { t with W := 256 }

theorem parseWith_accepts {special : Bytes} {fixL : Option Int} {p : Bytes} {t : Tile}
    (h : parseWith special fixL p = some t) : ∃ head, PathHead special fixL p t head := by
  obtain ⟨d, ⟨rfl, hL⟩ | ⟨hc, rfl, hL⟩⟩ := parseWith_eq_some.mp h
  · exact ⟨special, rfl, Or.inl ⟨rfl, hL⟩, parseWith_eq_some.mpr ⟨d.full, Or.inl ⟨by rw [nwPart_full rfl], hL⟩⟩⟩
  · refine ⟨ascii "tile/" ++ (levelStr t.L ++ [47]), by simp, Or.inr ⟨rfl, hL⟩,
      parseWith_eq_some.mpr ⟨d.full, Or.inr ⟨?_, by simp [nwPart_full], hL⟩⟩⟩
    refine cutPrefix_none_of_append (x := if t.W ≠ 256 then ascii ".p" ++ 47 :: fmtInt t.W else []) ?_
    rw [← hc]; simp [nwPart]

theorem sunlightPath_eq (t : Tile) (hH : t.H = 8) :
    sunlightPath t = some (if t.L = -2 then ascii "tile/names/" ++ nwPart t
      else ascii "tile/" ++ (levelStr t.L ++ 47 :: nwPart t)) := by
  rw [sunlightPath, if_neg (by simp [tileHeight, hH])]
  split
  · rw [tlogPath_prefix_data { t with L := -1 } hH rfl, trimPrefix_append]; rfl
  · rw [tlogPath_prefix t hH, trimPrefix_append]

theorem torchwoodPath_eq (t : Tile) (hH : t.H = 8) :
    torchwoodPath t = some (if t.L = -1 then ascii "tile/entries/" ++ nwPart t
      else ascii "tile/" ++ (levelStr t.L ++ 47 :: nwPart t)) := by
  rw [torchwoodPath, if_neg (by simp [tileHeight, hH])]
  split
  · rename_i hL
    rw [tlogPath_prefix_data t hH hL, trimPrefix_append]
  · rw [tlogPath_prefix t hH, trimPrefix_append]

/-- the `d` of `data` or a digit: neither the `n` of `names` nor the `e` of `entries`, so behind `tile/` a level is not
taken for a special prefix -/
theorem levelStr_head (l : Int) (h : -1 ≤ l) : ∃ c r, levelStr l = c :: r ∧ (c = 100 ∨ isDigit c = true) := by
  rcases levelStr_cases l h with hd | ⟨hd, hne⟩
  · exact ⟨100, ascii "ata", hd, Or.inl rfl⟩
  · cases hs : levelStr l with
    | nil => exact absurd hs hne
    | cons c r => exact ⟨c, r, rfl, Or.inr (List.all_eq_true.mp (hs ▸ hd) c List.mem_cons_self)⟩

theorem cutPrefix_level {l : Int} (h : -1 ≤ l) {c : UInt8} (hc : c ≠ 100) (hd : isDigit c = false) (s r : Bytes) :
    cutPrefix (ascii "tile/" ++ (levelStr l ++ r)) (ascii "tile/" ++ c :: s) = none := by
  obtain ⟨c', r', hl, hc'⟩ := levelStr_head l h
  rw [hl]
  exact cutPrefix_head_ne (ascii "tile/") _ s fun e => hc'.elim (fun h100 => hc (e ▸ h100)) (fun hd' => by rw [e, hd] at hd'; cases hd')

theorem sunlightParse_eq_some {p : Bytes} {t : Tile} : sunlightParse p = some t ↔ sunlightPath t = some p ∧ TileDom t := by
  rw [sunlightParse_eq, parseWith_eq_some, tileDom_iff]
  constructor
  · rintro ⟨d, ⟨rfl, hL⟩ | ⟨_, rfl, hL0, hL1⟩⟩
    · have hL : t.L = -2 := hL
      exact ⟨by rw [sunlightPath_eq t d.H, if_pos hL], d, by omega, by omega⟩
    · exact ⟨by rw [sunlightPath_eq t d.H, if_neg (by omega)], d, by omega, hL1⟩
  · rintro ⟨hp, d, hL0, hL1⟩
    obtain rfl := Option.some.inj ((sunlightPath_eq t d.H).symm.trans hp)
    refine ⟨d, ?_⟩
    by_cases hn : t.L = -2
    · rw [if_pos hn]
      exact Or.inl ⟨rfl, hn⟩
    · rw [if_neg hn]
      exact Or.inr ⟨cutPrefix_level (by omega) (by decide) (by decide) (ascii "ames/") _, rfl, by omega, hL1⟩

/-- besides what `torchwood.TilePath` prints, `torchwood.ParseTilePath` accepts `tile/data/…` as a second spelling of an
entry bundle `tile/entries/…` -/
theorem torchwoodParse_eq_some {p : Bytes} {t : Tile} : torchwoodParse p = some t ↔
    TileDom t ∧ -1 ≤ t.L ∧ (torchwoodPath t = some p ∨ (t.L = -1 ∧ p = ascii "tile/data/" ++ nwPart t)) := by
  have hdata : ascii "tile/data/" ++ nwPart t = ascii "tile/" ++ (levelStr (-1) ++ 47 :: nwPart t) := by simp [ascii, levelStr]
  rw [torchwoodParse, parseWith_eq_some, tileDom_iff]
  constructor
  · rintro ⟨d, ⟨rfl, hL⟩ | ⟨_, rfl, hL0, hL1⟩⟩
    · have hL : t.L = -1 := hL
      exact ⟨⟨d, by omega, by omega⟩, by omega, Or.inl (by rw [torchwoodPath_eq t d.H, if_pos hL])⟩
    · refine ⟨⟨d, by omega, hL1⟩, hL0, ?_⟩
      by_cases hL : t.L = -1
      · exact Or.inr ⟨hL, by rw [hdata, hL]⟩
      · exact Or.inl (by rw [torchwoodPath_eq t d.H, if_neg hL])
  · rintro ⟨⟨d, _, hL1⟩, hL0, hp | ⟨hL, rfl⟩⟩
    · obtain rfl := Option.some.inj ((torchwoodPath_eq t d.H).symm.trans hp)
      refine ⟨d, ?_⟩
      by_cases hn : t.L = -1
      · rw [if_pos hn]
        exact Or.inl ⟨rfl, hn⟩
      · rw [if_neg hn]
        exact Or.inr ⟨cutPrefix_level hL0 (by decide) (by decide) (ascii "ntries/") _, rfl, hL0, hL1⟩
    · rw [hdata]
      exact ⟨d, Or.inr ⟨cutPrefix_level (by decide) (by decide) (by decide) (ascii "ntries/") _, by rw [hL], hL0, hL1⟩⟩

end TilePath
