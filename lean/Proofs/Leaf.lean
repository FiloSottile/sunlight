import Proofs.Codec
import Model.Tls
/-!
The two leaf encoders and the tile-leaf reader are each characterised by an iff over their flat schema
(`appendTileLeaf_eq_some`, `merkleTreeLeaf_eq_some`, `readTileLeaf_eq_ok`); round trip, canonicity and the injectivity
of `merkleTreeLeaf` are read off these with `dec_eq_some`.
-/
namespace Codec

/-! ### the leaf_index extension -/

/-- `0 :: 0 :: 5 :: data`: extension type 0, the 16-bit length 5, the uint40 -/
theorem leafIndexExt {data : Bytes} (h : data.length = 5) :
    Fits extSchema [[0], data] ∧ enc extSchema [[0], data] = 0 :: 0 :: 5 :: data := by
  refine ⟨⟨rfl, by show data.length < 256 ^ 2; omega, trivial⟩, ?_⟩
  show [0] ++ ((toBE 2 data.length ++ data) ++ []) = _
  rw [h, List.append_nil]
  rfl

theorem marshalExtensions_eq {i : Int} (h0 : 0 ≤ i) (h1 : i < 1099511627776) :
    marshalExtensions i = some (0 :: 0 :: 5 :: toBE 5 i.toNat) := by
  obtain ⟨hf, he⟩ := leafIndexExt (toBE_length 5 i.toNat)
  rw [marshalExtensions, if_neg (by omega)]
  exact encChecked_eq_some.mpr ⟨hf, he.symm⟩

theorem marshalExtensions_none {i : Int} (h : i < 0 ∨ 1099511627776 ≤ i) : marshalExtensions i = none := by
  rw [marshalExtensions, if_pos (by omega)]

theorem extensionsOf_eq_some {e : LogEntry} {ext : Bytes} : extensionsOf e = some ext ↔
    if e.archival then ext = [] else
      0 ≤ e.leafIndex ∧ e.leafIndex < 1099511627776 ∧ ext = 0 :: 0 :: 5 :: toBE 5 e.leafIndex.toNat := by
  unfold extensionsOf
  split
  · simp [eq_comm]
  · by_cases hr : e.leafIndex < 0 ∨ 1099511627776 ≤ e.leafIndex
    · rw [marshalExtensions_none hr]
      simp; omega
    · rw [marshalExtensions_eq (by omega) (by omega), Option.some.injEq]
      exact ⟨fun h => ⟨by omega, by omega, h.symm⟩, fun h => h.2.2.symm⟩

theorem readLeafExt_eq_ok {ext : Bytes} {a : Bool} {i : Int} : readLeafExt ext = .ok (a, i) ↔
    if a then i = 0 ∧ ext = [] else
      0 ≤ i ∧ i < 1099511627776 ∧ ext = 0 :: 0 :: 5 :: toBE 5 i.toNat := by
  constructor
  · intro h
    unfold readLeafExt at h
    split at h
    · cases h; simpa
    · split at h
      · rename_i ty data rest hd
        split at h
        · rename_i hc
          obtain ⟨rfl, hlen, rfl⟩ := hc
          cases h
          obtain ⟨_, rfl⟩ := dec_eq_some.mp hd
          obtain ⟨hbe, hlt⟩ := be_of_length hlen
          simp only [Bool.false_eq_true, if_false, Int.ofNat_eq_natCast, Int.toNat_natCast, hbe, (leafIndexExt hlen).2,
            List.append_nil, and_true]
          omega
        · cases h
      · cases h
  · intro h
    cases a with
    | true => simp only [if_true] at h; simp [readLeafExt, h]
    | false =>
      simp only [Bool.false_eq_true, if_false] at h
      obtain ⟨h0, h1, rfl⟩ := h
      obtain ⟨hf, he⟩ := leafIndexExt (toBE_length 5 i.toNat)
      rw [readLeafExt, if_neg (by simp), ← List.append_nil (_ :: _), ← he, dec_enc _ _ _ hf]
      simp only [toBE_length, and_self, if_true]
      rw [fromBE_toBE 5 _ (by omega)]
      simp [Int.toNat_of_nonneg h0]

theorem readLeafExt_entry {e : LogEntry} {ext : Bytes} : readLeafExt ext = .ok (e.archival, e.leafIndex) ↔
    extensionsOf e = some ext ∧
      if e.archival then e.leafIndex = 0 else 0 ≤ e.leafIndex ∧ e.leafIndex < 1099511627776 := by
  rw [readLeafExt_eq_ok, extensionsOf_eq_some]
  split
  · exact And.comm
  · exact ⟨fun h => ⟨h, h.1, h.2.1⟩, fun h => h.1⟩

theorem extensionsOf_isSome (e : LogEntry) :
    (∃ ext, extensionsOf e = some ext) ↔ (e.archival = false → 0 ≤ e.leafIndex ∧ e.leafIndex < 1099511627776) := by
  simp only [extensionsOf_eq_some]
  split
  · simp [*]
  · simp [*]

theorem extensionsOf_length {e : LogEntry} {ext : Bytes} (h : extensionsOf e = some ext) : ext.length < 65536 := by
  rw [extensionsOf_eq_some] at h
  split at h
  · subst h; decide
  · rw [h.2.2]; simp [toBE_length]

/-! ### the tile leaf -/

theorem finishLeaf_eq_ok {ts : Nat} {p : Bool} {ikh cert ext pre fps rest r : Bytes} {e : LogEntry} :
    finishLeaf ts p ikh cert ext pre fps rest = .ok (e, r) ↔
      r = rest ∧ ∃ a i l, readLeafExt ext = .ok (a, i) ∧ l.flatten = fps ∧ (∀ f ∈ l, f.length = 32) ∧
        e = { certificate := cert, isPrecert := p, issuerKeyHash := ikh, chainFingerprints := l, preCertificate := pre,
              leafIndex := i, archival := a, timestamp := Int.ofNat ts } := by
  constructor
  · intro h
    unfold finishLeaf at h
    split at h
    · cases h
    · rename_i a i hx
      split at h
      · cases h
      · rename_i l hs
        cases h
        obtain ⟨s1, s2⟩ := (splitFps_eq_some (Nat.le_refl _)).mp hs
        exact ⟨rfl, a, i, l, hx, s1, s2, rfl⟩
  · rintro ⟨rfl, a, i, l, hx, rfl, h32, rfl⟩
    simp only [finishLeaf, hx, (splitFps_eq_some (Nat.le_refl _)).mpr ⟨rfl, h32⟩]

/-- what `readTileLeaf` accepts (`readTileLeaf_eq_ok`); `ext` is the extension block. The fields after `wire` are what
the wire format cannot express, or the reader checks on top of it -/
structure TileLeaf (bs rest : Bytes) (e : LogEntry) (ext : Bytes) : Prop where
  wire : dec (schemaOf (tileLeafSpec e.isPrecert)) bs = some (valuesOf (tileLeafSpec e.isPrecert) (e, ext), rest)
  ext_ok : readLeafExt ext = .ok (e.archival, e.leafIndex)
  ts_nonneg : 0 ≤ e.timestamp
  ts_le : e.timestamp ≤ 9223372036854775807
  fps_length : ∀ f ∈ e.chainFingerprints, f.length = 32
  x509 : e.isPrecert = false → e.issuerKeyHash = zeros32 ∧ e.preCertificate = []

/-- a tile leaf is the header followed by the body of its entry type -/
theorem dec_tileLeaf {p : Bool} {bs rest ext : Bytes} {e : LogEntry} :
    dec (schemaOf (tileLeafSpec p)) bs = some (valuesOf (tileLeafSpec p) (e, ext), rest) ↔
      ∃ s, dec headerSchema bs = some ([toBE 8 (u64 e.timestamp), toBE 2 (if p then 1 else 0)], s) ∧
        dec (schemaOf (if p then precertBodySpec else x509BodySpec)) s =
          some (valuesOf (if p then precertBodySpec else x509BodySpec) (e, ext), rest) := by
  cases p <;> exact dec_append_eq_some (fs1 := headerSchema) (vs1 := [_, _]) rfl

theorem readTileLeaf_eq_ok {bs rest : Bytes} {e : LogEntry} :
    readTileLeaf bs = .ok (e, rest) ↔ ∃ ext, TileLeaf bs rest e ext := by
  constructor
  · intro h
    unfold readTileLeaf at h
    split at h
    · rename_i ts ty s hd
      obtain ⟨(h8 : ts.length = 8), (h2 : ty.length = 2), _⟩ := (dec_eq_some.mp hd).1
      split at h
      · cases h
      · rename_i hle
        have hw : (0 : Int) ≤ Int.ofNat (fromBE ts) ∧ Int.ofNat (fromBE ts) ≤ 9223372036854775807 := by
          unfold maxInt64 at hle; simp only [Int.ofNat_eq_natCast]; omega
        have hts : ts = toBE 8 (u64 (Int.ofNat (fromBE ts))) := by
          rw [u64_of_nonneg hw.1 hw.2]
          exact (be_of_length h8).1.symm
        rw [hts] at hd
        -- in either branch the header and the body that were decoded are the two parts of `dec_tileLeaf`
        split at h
        · rename_i hty
          rw [fromBE_eq_of_toBE h2 hty] at hd
          split at h
          · rename_i cert ext fps r hb
            obtain ⟨rfl, a, i, l, hx, rfl, h32, rfl⟩ := finishLeaf_eq_ok.mp h
            exact ⟨ext,
              { wire := dec_tileLeaf.mpr ⟨s, hd, hb⟩, ext_ok := hx, ts_nonneg := hw.1, ts_le := hw.2, fps_length := h32,
                x509 := fun _ => ⟨rfl, rfl⟩ }⟩
          · cases h
        · rename_i hty
          rw [fromBE_eq_of_toBE h2 hty] at hd
          split at h
          · rename_i ikh cert ext pre fps r hb
            obtain ⟨rfl, a, i, l, hx, rfl, h32, rfl⟩ := finishLeaf_eq_ok.mp h
            exact ⟨ext,
              { wire := dec_tileLeaf.mpr ⟨s, hd, hb⟩, ext_ok := hx, ts_nonneg := hw.1, ts_le := hw.2, fps_length := h32,
                x509 := fun h => by cases h }⟩
          · cases h
        · cases h
    · cases h
  · rintro ⟨ext, leaf⟩
    obtain ⟨s, hd, hb⟩ := dec_tileLeaf.mp leaf.wire
    have hfin : finishLeaf e.timestamp.toNat e.isPrecert e.issuerKeyHash e.certificate ext e.preCertificate
        e.chainFingerprints.flatten rest = .ok (e, rest) :=
      finishLeaf_eq_ok.mpr ⟨rfl, _, _, _, leaf.ext_ok, rfl, leaf.fps_length,
        by rw [Int.ofNat_eq_natCast, Int.toNat_of_nonneg leaf.ts_nonneg]⟩
    have hts : fromBE (toBE 8 (u64 e.timestamp)) = e.timestamp.toNat := by
      rw [fromBE_toBE 8 _ (u64_lt _), u64_of_nonneg leaf.ts_nonneg leaf.ts_le]
    have htsle : ¬ (e.timestamp.toNat > maxInt64) := by have := leaf.ts_le; unfold maxInt64; omega
    unfold readTileLeaf
    rw [hd]
    cases hp : e.isPrecert with
    | false =>
      obtain ⟨hk, hpre⟩ := leaf.x509 hp
      rw [hp] at hb hfin
      simp only [hts, htsle, if_false, Bool.false_eq_true, show fromBE (toBE 2 0) = 0 by decide]
      rw [show dec x509Body s = _ from hb]
      rwa [hk, hpre] at hfin
    | true =>
      rw [hp] at hb hfin
      simp only [hts, htsle, if_false, if_true, show fromBE (toBE 2 1) = 1 by decide]
      rw [show dec precertBody s = _ from hb]
      exact hfin

theorem readTileLeafStrict_eq_ok {bs rest : Bytes} {e : LogEntry} :
    readTileLeafStrict bs = .ok (e, rest) ↔ readTileLeaf bs = .ok (e, rest) ∧ e.archival = false := by
  unfold readTileLeafStrict
  cases readTileLeaf bs with
  | error err => simp
  | ok p =>
    obtain ⟨e', r'⟩ := p
    simp only
    by_cases ha : e'.archival = true
    · rw [if_pos ha]
      refine ⟨(nomatch ·), ?_⟩
      rintro ⟨h, hf⟩
      cases h
      rw [ha] at hf
      cases hf
    · rw [if_neg ha]
      exact ⟨fun h => ⟨h, by cases h; simpa using ha⟩, fun h => h.1⟩

theorem tileLeaf_fits (p : Bool) (e : LogEntry) (ext : Bytes) :
    Fits (schemaOf (tileLeafSpec p)) (valuesOf (tileLeafSpec p) (e, ext)) ↔
      e.certificate.length < 16777216 ∧ ext.length < 65536 ∧ e.chainFingerprints.flatten.length < 65536 ∧
      (p = true → e.issuerKeyHash.length = 32 ∧ e.preCertificate.length < 16777216) := by
  cases p with
  | false =>
    show Fits [.fixed 8, .fixed 2, .lenp 3, .lenp 2, .lenp 2]
      [toBE 8 (u64 e.timestamp), toBE 2 0, e.certificate, ext, e.chainFingerprints.flatten] ↔ _
    simp [Fits, Field.fits, toBE_length]
  | true =>
    show Fits [.fixed 8, .fixed 2, .fixed 32, .lenp 3, .lenp 2, .lenp 3, .lenp 2]
      [toBE 8 (u64 e.timestamp), toBE 2 1, e.issuerKeyHash, e.certificate, ext, e.preCertificate,
        e.chainFingerprints.flatten] ↔ _
    simp [Fits, Field.fits, toBE_length]
    constructor
    · rintro ⟨hikh, hcert, hext, hpre, hfps⟩; exact ⟨hcert, hext, hfps, hikh, hpre⟩
    · rintro ⟨hcert, hext, hfps, hikh, hpre⟩; exact ⟨hikh, hcert, hext, hpre, hfps⟩

theorem appendTileLeaf_eq_some {t b : Bytes} {e : LogEntry} : appendTileLeaf t e = some b ↔
    ∃ ext, extensionsOf e = some ext ∧
      Fits (schemaOf (tileLeafSpec e.isPrecert)) (valuesOf (tileLeafSpec e.isPrecert) (e, ext)) ∧
      b = t ++ enc (schemaOf (tileLeafSpec e.isPrecert)) (valuesOf (tileLeafSpec e.isPrecert) (e, ext)) := by
  unfold appendTileLeaf
  cases extensionsOf e with
  | none => simp
  | some ext =>
    simp only [encSpec, encChecked, Option.some.injEq, exists_eq_left']
    split <;> simp [*, eq_comm]

theorem WF.cert_lt {e : LogEntry} (wf : WF e) : e.certificate.length < 16777216 := wf.1
theorem WF.ts_nonneg {e : LogEntry} (wf : WF e) : 0 ≤ e.timestamp := wf.2.1
theorem WF.ts_le {e : LogEntry} (wf : WF e) : e.timestamp ≤ 9223372036854775807 := wf.2.2.1
theorem WF.ikh_length {e : LogEntry} (wf : WF e) : e.issuerKeyHash.length = 32 := wf.2.2.2.1
theorem WF.fps_length {e : LogEntry} (wf : WF e) : ∀ f ∈ e.chainFingerprints, f.length = 32 := wf.2.2.2.2.1
theorem WF.fps_count {e : LogEntry} (wf : WF e) : e.chainFingerprints.length ≤ 2047 := wf.2.2.2.2.2.1

theorem WF.precert {e : LogEntry} (wf : WF e) (hp : e.isPrecert = true) : e.preCertificate.length < 16777216 := by
  simpa [hp] using wf.2.2.2.2.2.2.1

theorem WF.x509 {e : LogEntry} (wf : WF e) (hp : e.isPrecert = false) : e.issuerKeyHash = zeros32 ∧ e.preCertificate = [] := by
  simpa [hp] using wf.2.2.2.2.2.2.1

theorem WF.index {e : LogEntry} (wf : WF e) :
    if e.archival then e.leafIndex = 0 else 0 ≤ e.leafIndex ∧ e.leafIndex < 1099511627776 := wf.2.2.2.2.2.2.2

theorem WF.index_range {e : LogEntry} (wf : WF e) (ha : e.archival = false) : 0 ≤ e.leafIndex ∧ e.leafIndex < 1099511627776 := by
  simpa [ha] using wf.index

theorem leaf_roundtrip (e : LogEntry) (t0 rest : Bytes) (wf : WF e) :
    ∃ body, appendTileLeaf t0 e = some (t0 ++ body) ∧ readTileLeaf (body ++ rest) = .ok (e, rest) := by
  obtain ⟨ext, hext⟩ := (extensionsOf_isSome e).mpr wf.index_range
  have hf := (tileLeaf_fits e.isPrecert e ext).mpr ⟨wf.cert_lt, extensionsOf_length hext,
    by have := wf.fps_count; rw [flatten_length_32 _ wf.fps_length]; omega, fun hp => ⟨wf.ikh_length, wf.precert hp⟩⟩
  exact ⟨_, appendTileLeaf_eq_some.mpr ⟨ext, hext, hf, rfl⟩, readTileLeaf_eq_ok.mpr ⟨ext,
    { wire := dec_enc _ _ _ hf, ext_ok := readLeafExt_entry.mpr ⟨hext, wf.index⟩, ts_nonneg := wf.ts_nonneg,
      ts_le := wf.ts_le, fps_length := wf.fps_length, x509 := wf.x509 }⟩⟩

theorem leaf_canonical (bs : Bytes) (e : LogEntry) (rest : Bytes) (h : readTileLeaf bs = .ok (e, rest)) :
    ∃ pre, appendTileLeaf [] e = some pre ∧ pre ++ rest = bs ∧ WF e := by
  obtain ⟨ext, leaf⟩ := readTileLeaf_eq_ok.mp h
  obtain ⟨hf, henc⟩ := dec_eq_some.mp leaf.wire
  obtain ⟨hext, hidx⟩ := readLeafExt_entry.mp leaf.ext_ok
  obtain ⟨hc, _, hfl, hpre⟩ := (tileLeaf_fits _ e ext).mp hf
  refine ⟨_, appendTileLeaf_eq_some.mpr ⟨ext, hext, hf, rfl⟩, henc,
    hc, leaf.ts_nonneg, leaf.ts_le, ?_, leaf.fps_length, ?_, ?_, hidx⟩
  · cases hp : e.isPrecert with
    | false => rw [(leaf.x509 hp).1]; rfl
    | true => exact (hpre hp).1
  · have := flatten_length_32 _ leaf.fps_length
    omega
  · cases hp : e.isPrecert with
    | false => exact leaf.x509 hp
    | true => exact (hpre hp).2

/-! ### MerkleTreeLeaf against the independent TLS encoder; injectivity -/
open Tls

theorem beBytes_eq_toBE (k v : Nat) : beBytes k v = toBE k v := by
  induction k generalizing v with
  | zero => rfl
  | succ k ih =>
    simp only [beBytes, ih]
    -- `beBytes` peels the last byte, `toBE` the first: a second induction moves the last byte through `toBE`
    clear ih
    induction k generalizing v with
    | zero => simp [toBE]
    | succ k ih2 =>
      rw [toBE, toBE]
      have e1 : v / 256 / 256 ^ k = v / 256 ^ (k + 1) := by
        rw [Nat.div_div_eq_div_mul, Nat.pow_succ, Nat.mul_comm]
      have e2 : v / 256 % 256 ^ k = v % 256 ^ (k + 1) / 256 := by
        rw [Nat.pow_succ, Nat.mul_comm, Nat.mod_mul_right_div_self]
      have e3 : v % 256 ^ (k + 1) % 256 = v % 256 := by
        apply Nat.mod_mod_of_dvd
        exact ⟨256 ^ k, by rw [Nat.pow_succ, Nat.mul_comm]⟩
      rw [List.cons_append, e1, e2, ← e3, ih2 (v % 256 ^ (k + 1))]

theorem extensionsOf_eq_ct {e : LogEntry} {ext : Bytes} (h : extensionsOf e = some ext) : ext = ctExtensions e := by
  rw [extensionsOf_eq_some] at h
  unfold ctExtensions
  split at h
  · rw [if_pos ‹_›]; exact h
  · rw [if_neg ‹_›, h.2.2]
    simp only [Val.encode, encodeAll, beBytes_eq_toBE, toBE_length, List.append_nil]
    rfl

theorem merkleTreeLeaf_eq_some {e : LogEntry} {bs : Bytes} : merkleTreeLeaf e = some bs ↔
    ∃ ext, extensionsOf e = some ext ∧
      Fits (schemaOf (merkleLeafSpec e.isPrecert)) (valuesOf (merkleLeafSpec e.isPrecert) (e, ext)) ∧
      bs = enc (schemaOf (merkleLeafSpec e.isPrecert)) (valuesOf (merkleLeafSpec e.isPrecert) (e, ext)) := by
  unfold merkleTreeLeaf
  cases extensionsOf e with
  | none => simp
  | some ext => simp only [encSpec, encChecked_eq_some, Option.some.injEq, exists_eq_left']

theorem mtl_spec (e : LogEntry) (bs : Bytes) (h : merkleTreeLeaf e = some bs) :
    bs = (MerkleTreeLeaf.ofEntry e).encode := by
  obtain ⟨ext, hx, _, rfl⟩ := merkleTreeLeaf_eq_some.mp h
  rw [extensionsOf_eq_ct hx]
  unfold MerkleTreeLeaf.ofEntry
  cases e.isPrecert with
  | false =>
    show enc [.fixed 1, .fixed 1, .fixed 8, .fixed 2, .lenp 3, .lenp 2]
      [[0], [0], toBE 8 (u64 e.timestamp), toBE 2 0, e.certificate, ctExtensions e] = _
    simp only [Val.encode, encodeAll, beBytes_eq_toBE, enc, encField, List.append_nil, List.append_assoc,
      Bool.false_eq_true, if_false]
    rfl
  | true =>
    show enc [.fixed 1, .fixed 1, .fixed 8, .fixed 2, .fixed 32, .lenp 3, .lenp 2]
      [[0], [0], toBE 8 (u64 e.timestamp), toBE 2 1, e.issuerKeyHash, e.certificate, ctExtensions e] = _
    simp only [Val.encode, encodeAll, beBytes_eq_toBE, enc, encField, List.append_nil, List.append_assoc, if_true]
    rfl

theorem merkleLeaf_schema (p : Bool) : schemaOf (merkleLeafSpec p) =
    [.fixed 1, .fixed 1, .fixed 8, .fixed 2] ++ (if p then [.fixed 32, .lenp 3, .lenp 2] else [.lenp 3, .lenp 2]) := by
  cases p <;> rfl

theorem merkleLeaf_values (p : Bool) (e : LogEntry) (ext : Bytes) : valuesOf (merkleLeafSpec p) (e, ext) =
    [[0], [0], toBE 8 (u64 e.timestamp), toBE 2 (if p then 1 else 0)] ++
      (if p then [e.issuerKeyHash, e.certificate, ext] else [e.certificate, ext]) := by
  cases p <;> rfl

theorem mtl_total (e : LogEntry) (wf : WF e) : ∃ bs, merkleTreeLeaf e = some bs := by
  obtain ⟨ext, hext⟩ := (extensionsOf_isSome e).mpr wf.index_range
  refine ⟨_, merkleTreeLeaf_eq_some.mpr ⟨ext, hext, ?_, rfl⟩⟩
  have hc := wf.cert_lt
  have hikh := wf.ikh_length
  have hel := extensionsOf_length hext
  rw [merkleLeaf_schema, merkleLeaf_values]
  cases e.isPrecert <;> simp [Fits, Field.fits, toBE_length, *]

theorem mtl_inj (e e' : LogEntry) (wf : WF e) (wf' : WF e') (h : merkleTreeLeaf e = merkleTreeLeaf e') :
    covered e = covered e' := by
  obtain ⟨bs, hm⟩ := mtl_total e wf
  obtain ⟨ext, hext, hf, rfl⟩ := merkleTreeLeaf_eq_some.mp hm
  obtain ⟨ext', hext', hf', he⟩ := merkleTreeLeaf_eq_some.mp (h ▸ hm)
  rw [merkleLeaf_schema, merkleLeaf_values] at hf hf'
  rw [merkleLeaf_schema, merkleLeaf_values, merkleLeaf_schema, merkleLeaf_values] at he
  -- the header: same timestamp and entry type
  obtain ⟨fh, fb⟩ := Fits.of_append rfl hf
  obtain ⟨fh', fb'⟩ := Fits.of_append rfl hf'
  rw [enc_append fh, enc_append fh'] at he
  obtain ⟨hh, hb⟩ := enc_inj fh fh' he
  simp only [List.cons.injEq, true_and, and_true] at hh
  have hp : e.isPrecert = e'.isPrecert := by
    have := hh.2
    revert this
    cases e.isPrecert <;> cases e'.isPrecert <;> decide
  have ht : e.timestamp = e'.timestamp := by
    have := toBE_inj (u64_lt _) (u64_lt _) hh.1
    rw [u64_of_nonneg wf.ts_nonneg wf.ts_le, u64_of_nonneg wf'.ts_nonneg wf'.ts_le] at this
    have := wf.ts_nonneg; have := wf'.ts_nonneg; omega
  -- the body: same schema now, hence same values
  rw [← hp] at hb fb'
  obtain ⟨hv, _⟩ := enc_inj (r := []) (r' := []) fb fb' (by simpa using hb)
  -- `readLeafExt` is a left inverse of `extensionsOf`: equal extension blocks give equal `archival` and `leafIndex`
  have hx := readLeafExt_entry.mpr ⟨hext, wf.index⟩
  have hx' := readLeafExt_entry.mpr ⟨hext', wf'.index⟩
  unfold covered
  rw [← hp, ← ht]
  cases hq : e.isPrecert with
  | false =>
    simp only [hq, Bool.false_eq_true, if_false, List.cons.injEq, and_true] at hv ⊢
    rw [← hv.2, hx, Except.ok.injEq, Prod.mk.injEq] at hx'
    rw [hv.1, hx'.1, hx'.2]
  | true =>
    simp only [hq, if_true, List.cons.injEq, and_true] at hv ⊢
    rw [← hv.2.2, hx, Except.ok.injEq, Prod.mk.injEq] at hx'
    rw [hv.1, hv.2.1, hx'.1, hx'.2]

/-! ### ParseExtensions -/

theorem parseExtensions_index (n : Nat) (h : n < 1099511627776) (junk : Bytes) :
    parseExtensions (0 :: 0 :: 5 :: toBE 5 n ++ junk) = .ok (Int.ofNat n) := by
  obtain ⟨hf, he⟩ := leafIndexExt (toBE_length 5 n)
  have hl : (0 :: 0 :: 5 :: toBE 5 n ++ junk : Bytes).length = (7 + junk.length) + 1 := by
    simp [toBE_length]; omega
  rw [parseExtensions, hl, parseExtensionsAux, if_neg (by simp), ← he,
    show dec [.fixed 1, .lenp 2] (enc extSchema _ ++ junk) = _ from dec_enc _ _ _ hf]
  simp only [toBE_length, if_true]
  rw [fromBE_toBE 5 n (by simpa using h)]

theorem parseExtensionsAux_fuel (f : Nat) : ∀ (b : Bytes) (f' : Nat), b.length ≤ f → b.length ≤ f' →
    parseExtensionsAux f b = parseExtensionsAux f' b := by
  induction f with
  | zero =>
    intro b f' h _
    obtain rfl : b = [] := List.length_eq_zero_iff.mp (by omega)
    cases f' <;> simp [parseExtensionsAux]
  | succ f ih =>
    intro b f' h h'
    cases f' with
    | zero =>
      obtain rfl : b = [] := List.length_eq_zero_iff.mp (by omega)
      simp [parseExtensionsAux]
    | succ f' =>
      simp only [parseExtensionsAux]
      split
      · rfl
      · split
        · rename_i ty ext rest hd
          split
          · rfl
          · obtain ⟨hfit, henc⟩ := dec_eq_some.mp hd
            have hlen : rest.length + 3 ≤ b.length := by
              have : ty.length = 1 := hfit.1
              rw [← henc]
              simp [enc, encField, toBE_length, this]
              omega
            exact ih rest f' (by omega) (by omega)
        · rfl

theorem parseExtensions_skip (ty : UInt8) (data rest : Bytes) (hty : ty ≠ 0) (hlen : data.length < 65536) :
    parseExtensions (ty :: toBE 2 data.length ++ data ++ rest) = parseExtensions rest := by
  have e : (ty :: toBE 2 data.length ++ data ++ rest : Bytes) = enc [.fixed 1, .lenp 2] [[ty], data] ++ rest := by
    simp [enc, encField]
  have hl : (ty :: toBE 2 data.length ++ data ++ rest : Bytes).length = (2 + data.length + rest.length) + 1 := by
    simp [toBE_length]; omega
  rw [parseExtensions, hl, parseExtensionsAux, if_neg (by simp), e,
    dec_enc _ _ _ (by simp only [Fits, Field.fits]; exact ⟨rfl, hlen, trivial⟩)]
  simp only
  rw [if_neg (by simpa using hty)]
  exact parseExtensionsAux_fuel _ _ _ (by omega) (Nat.le_refl _)

end Codec
