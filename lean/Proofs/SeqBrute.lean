/-! Six brute-force tactics over `Seq.step`: each takes `h : step s e = some s'` for one event constructor
apart (`simp only [step]`, then `split` until nothing is left) and hands every branch to `simp_all` with the
unfolding set of one per-instance predicate. `seq_glob_brute`, `origin_brute` and `brick_brute` name
`chain_push`, `Origin` and `BrickStep`, which this development does not define: they have to be in scope where
the tactic is called. No proof uses these tactics; the proofs go through `step_sound` and `cases` on `Step`
(Proofs/SeqStep.lean). -/
namespace Seq

macro "seq_inst_brute" h:ident : tactic => `(tactic|
  (simp only [step] at $h:ident <;> (repeat' split at $h:ident) <;>
    simp_all [Sys.setInst, upd, InstOK, RoundOK, LoadOK] <;>
    (try (subst $h:ident; simp_all [upd, InstOK, RoundOK, LoadOK])) <;>
    (try (first | exact head_mem (by assumption) | (apply List.mem_cons_of_mem; assumption)))))

macro "seq_glob_brute" h:ident hinv:ident hi:ident : tactic => `(tactic|
  (simp only [step] at $h:ident <;> (repeat' split at $h:ident) <;>
    simp_all [Sys.setInst, upd, InstOK, RoundOK, LoadOK] <;>
    (try (subst $h:ident; simp_all [upd, InstOK, RoundOK, LoadOK])) <;>
    (try (simp [Chain])) <;>
    (try (exact chain_push $hinv:ident (by assumption) ($hi:ident).2.2.1 ($hi:ident).2.2.2)) <;>
    (try (split at $hi:ident <;> simp_all))))

macro "seq3_brute" h:ident : tactic => `(tactic|
  (simp only [step] at $h:ident <;> (repeat' split at $h:ident) <;>
    simp_all [Sys.setInst, upd, SOK, leavesOf] <;>
    (try (subst $h:ident; simp_all [upd, SOK, leavesOf])) <;>
    (try (exact Complete.mono (tileLe_discard _ _) (by assumption)))))

macro "origin_brute" h:ident hph:ident : tactic => `(tactic|
  (simp only [step] at $h:ident <;> (repeat' split at $h:ident) <;>
    (first | cases $h:ident | skip) <;> (try (injection $h:ident with $h:ident; subst $h:ident)) <;>
    simp_all [Sys.setInst, upd, Origin] <;>
    (try (subst $hph:ident; simp_all [leavesOf, List.length_pos_iff]))))

macro "solo_brute" h:ident : tactic => `(tactic|
  (simp only [step] at $h:ident <;> (repeat' split at $h:ident) <;>
    (first | cases $h:ident | skip) <;> (try (injection $h:ident with $h:ident; subst $h:ident)) <;>
    simp_all [Sys.setInst, upd, SoloOK, leavesOf]))

macro "brick_brute" h:ident : tactic => `(tactic|
  (simp only [step] at $h:ident <;> (repeat' split at $h:ident) <;>
    (first | cases $h:ident | skip) <;> (try (injection $h:ident with $h:ident; subst $h:ident)) <;>
    simp_all [Sys.setInst, upd, InertPhase, BrickStep, isUp] <;> (try omega)))

end Seq
