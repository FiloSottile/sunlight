import Model.LocalFS
/-! # `compareFile` (C13): the verdict of the read loop, and when its buffer is never empty. -/
namespace LocalFS

theorem prefixDiffers_eq : ∀ (n : Nat) (a b : Bytes), prefixDiffers n a b = (a.take n != b.take n)
  | 0, _, _ => by simp [prefixDiffers]
  | _ + 1, [], [] => by simp [prefixDiffers]
  | n + 1, x :: a, y :: b => by
    simp only [prefixDiffers, List.take_succ_cons, prefixDiffers_eq n a b]
    by_cases h : x = y <;> simp [h, bne]
  | _ + 1, [], _ :: _ => by simp [prefixDiffers, bne]
  | _ + 1, _ :: _, [] => by simp [prefixDiffers, bne]

theorem minLen_eq : ∀ (c : Nat) (l : Bytes), minLen c l = Nat.min c l.length
  | 0, _ => by simp [minLen]
  | _ + 1, [] => by simp [minLen]
  | c + 1, _ :: l => by
    simp only [minLen, minLen_eq c l, List.length_cons]
    exact (Nat.succ_min_succ c l.length).symm

theorem compareLoop_zero_cap (fuel : Nat) (file data : Bytes) :
    compareLoop 0 fuel file data = ([], none) := by
  induction fuel with
  | zero => rfl
  | succ n ih => simp [compareLoop, ih]

theorem compareLoop_complete (cap : Nat) (hc : 0 < cap) (fuel : Nat) (file data : Bytes) :
    file.length < fuel → (compareLoop cap fuel file data).2 = some (decide (file = data)) := by
  fun_induction compareLoop cap fuel file data with
  | case1 => omega
  | case2 => omega
  | case3 fuel file data _ he =>
    intro _
    rw [List.isEmpty_iff.1 he]
    cases data <;> simp
  | case4 fuel file data _ _ n hd =>
    intro _
    have : file ≠ data := by
      rintro rfl
      simp only [n, minLen_eq, prefixDiffers_eq, bne_self_eq_false, Bool.or_false, decide_eq_true_eq] at hd
      exact Nat.not_lt.2 (Nat.min_le_right _ _) hd
    simp [this]
  | case5 fuel file data _ he n hd r ih =>
    -- the chunk agrees: the rest decides
    intro h
    simp only [Bool.or_eq_true, decide_eq_true_eq, not_or, Nat.not_lt, prefixDiffers_eq, bne_iff_ne, ne_eq,
      Decidable.not_not] at hd
    have hn : 0 < n ∧ 0 < file.length := by
      cases file with
      | nil => simp at he
      | cons => simp only [n, minLen_eq]; exact ⟨Nat.lt_min.2 ⟨hc, Nat.succ_pos _⟩, Nat.succ_pos _⟩
    show r.2 = _
    rw [ih (by rw [List.length_drop]; omega)]
    congr 1
    apply decide_eq_decide.2
    constructor
    · intro e; rw [← List.take_append_drop n file, ← List.take_append_drop n data, hd.2, e]
    · intro e; rw [e]

/-- With a non-empty buffer `compareFuel` suffices and the verdict is equality. With an empty one the `none`
stands for "never returns": it is `none` for every fuel (`compareLoop_zero_cap`). -/
theorem compareFile_verdict (P : Program) (file data : Bytes) :
    (compareFile P file data).2 = if 0 < P.bufLen data.length then some (decide (file = data)) else none := by
  unfold compareFile
  split
  · rename_i h; exact compareLoop_complete _ h _ _ _ (Nat.lt_succ_of_lt (Nat.lt_succ_self _))
  · rename_i h; rw [Nat.eq_zero_of_not_pos h, compareLoop_zero_cap]

theorem BufExpr.pos_sound : ∀ (e : BufExpr), e.pos = true → ∀ l, 0 < e.eval l
  | .lit n, h, _ => by simpa [BufExpr.pos, BufExpr.eval] using h
  | .len, h, _ => by simp [BufExpr.pos] at h
  | .min a b, h, l => by
    simp only [BufExpr.pos, Bool.and_eq_true] at h
    exact Nat.lt_min.2 ⟨pos_sound a h.1 l, pos_sound b h.2 l⟩
  | .max a b, h, l => by
    simp only [BufExpr.pos, Bool.or_eq_true] at h
    rcases h with h | h
    · exact Nat.lt_of_lt_of_le (pos_sound a h l) (Nat.le_max_left _ _)
    · exact Nat.lt_of_lt_of_le (pos_sound b h l) (Nat.le_max_right _ _)

theorem Program.progress_of_pos (P : Program) (h : P.buf.pos = true) : P.Progress :=
  fun l => BufExpr.pos_sound P.buf h l

end LocalFS
