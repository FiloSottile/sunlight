import Model.Sequencer
/-! `Seq.step` read as a transition relation. `Step s e s'` lists the rules of the protocol one by one:
the phase the acting instance must be in, the guards the model tests, and the successor state written
out. `step_sound` takes the `step` function apart once, for all events; the frame lemmas and
the invariants are proved by `cases` on `Step`.

`Step` is sound for `step`, not complete. A rule keeps every guard that decides what the successor
is, and drops the ones that only choose among outcomes with the same shape: which fetch result sends
a creation or a load on and which makes it fail, how an edge fetch computes its `bad` flag (only that
the flag never clears is kept), which lookup answered a submission (`submitted_inv` is the exact
inversion of that event). A single-event fact that needs a dropped guard unfolds `step` itself. -/
namespace Seq

def Ev.inst : Ev → Option Nat
  | .launchCreate i | .launchLoad i | .launchRound i | .launchSubmit i | .config i _ | .clock i _
  | .lockFetch i _ | .lockCreate i _ _ | .lockReplace i _ _ _ | .fetch i _ _ | .upload i _ _ _ _
  | .discard i _ _ | .submitted i _ _ _ _ _ | .ack i _ _ _ _ | .nackEvicted i _ _ | .nack i _ _
  | .created i | .createFail i | .loaded i _ | .loadFail i | .roundEnd i _ | .crash i | .cacheLose i => some i
  | .tamper _ _ => none

theorem inst_none_tamper (e : Ev) (h : e.inst = none) : ∃ k o, e = .tamper k o := by
  cases e <;> simp [Ev.inst] at h
  exact ⟨_, _, rfl⟩

/-- for a concrete event list: evaluate the test once -/
theorem insts_eq_of_all {es : List Ev} {i : Nat} (h : es.all (fun e => e.inst == some i) = true) :
    ∀ e ∈ es, e.inst = some i := fun e he => by simpa using List.all_eq_true.1 h e he

abbrev Store := Key → Option (Obj × Bool)

def setPhase (s : Sys) (i : Nat) (p : Phase) : Sys := s.setInst i { s.insts i with phase := p }

def Sys.pushLock (s : Sys) (c : Ck) : Sys := { s with lock := some c, lockHist := c :: s.lockHist }

def Sys.stored (s : Sys) (st : Store) (pub : List Ck := s.pubHist) : Sys :=
  { s with store := st, pubHist := pub }

inductive Step : Sys → Ev → Sys → Prop
  | config {s i bad} (hph : ∀ pc, (s.insts i).phase ≠ .loading pc) :
      Step s (.config i bad) (s.setInst i { s.insts i with cfgBad := bad })
  | launchCreate {s i} (hph : (s.insts i).phase = .down) :
      Step s (.launchCreate i) (setPhase s i (.creating .lockFetch))
  | launchLoad {s i} (hph : (s.insts i).phase = .down) :
      Step s (.launchLoad i) (s.setInst i { s.insts i with
        phase := .loading .lockFetch, pool := [], poolEvicted := [], issuersSeen := [], issuerFailed := false,
        evictPending := false, evictedEver := [] })
  | launchRound {s i} (hph : (s.insts i).phase = .idle) (hev : (s.insts i).evictPending = false) :
      Step s (.launchRound i) (s.setInst i { s.insts i with
        phase := .round ⟨(s.insts i).pool, (s.insts i).poolEvicted, .clock, (s.insts i).tree, (s.insts i).tree, false, []⟩,
        pool := [], poolEvicted := [] })
  | launchSubmit {s i} (hup : isUp (s.insts i) = true) : Step s (.launchSubmit i) s
  | clockFatal {s i v rd} (hph : (s.insts i).phase = .round rd) (hpc : rd.pc = .clock)
      (hv : v ≤ (s.insts i).tree.time) :
      Step s (.clock i v) (setPhase s i (.round { rd with pc := .done .fatal }))
  | clockRound {s i v rd} (hph : (s.insts i).phase = .round rd) (hpc : rd.pc = .clock)
      (hv : (s.insts i).tree.time < v) (hs : rd.slots ≠ []) :
      Step s (.clock i v) (setPhase s i (.round { rd with
        pc := .stage, old := (s.insts i).tree, new := ⟨(s.insts i).tree.leaves ++ leavesOf rd.slots v, v⟩ }))
  | clockRoundEmpty {s i v rd} (hph : (s.insts i).phase = .round rd) (hpc : rd.pc = .clock)
      (hv : (s.insts i).tree.time < v) (hs : rd.slots = []) :
      Step s (.clock i v) (setPhase s i (.round { rd with
        pc := .cas, old := (s.insts i).tree, new := ⟨(s.insts i).tree.leaves ++ leavesOf rd.slots v, v⟩ }))
  | clockCreate {s i v} (hph : (s.insts i).phase = .creating .clock) :
      Step s (.clock i v) (setPhase s i (.creating (.lockCreate ⟨[], v⟩)))
  | clockLoad1 {s i v c} (hph : (s.insts i).phase = .loading (.clock1 c)) (hv : c.time ≤ v) :
      Step s (.clock i v) (setPhase s i (.loading (.ckptFetch c)))
  | clockLoadSame {s i v c c1} (hph : (s.insts i).phase = .loading (.clock2 c c1)) (hv : c1.time ≤ v)
      (heq : c1.leaves = c.leaves) :
      Step s (.clock i v) (setPhase s i (.loading (.edge c false)))
  | clockLoadBehind {s i v c c1} (hph : (s.insts i).phase = .loading (.clock2 c c1)) (hv : c1.time ≤ v)
      (hlt : c1.leaves.length < c.leaves.length) :
      Step s (.clock i v) (setPhase s i (.loading (.legacy c)))
  | clockLoad1Fail {s i v c} (hph : (s.insts i).phase = .loading (.clock1 c)) (hv : v < c.time) :
      Step s (.clock i v) (setPhase s i (.loading .failing))
  | clockLoad2Fail {s i v c c1} (hph : (s.insts i).phase = .loading (.clock2 c c1))
      (h : v < c1.time ∨ c1.leaves ≠ c.leaves ∧ ¬ c1.leaves.length < c.leaves.length) :
      Step s (.clock i v) (setPhase s i (.loading .failing))
  | lockFetchCreate {s i r} (hph : (s.insts i).phase = .creating .lockFetch) :
      Step s (.lockFetch i r) (setPhase s i (.creating .ckptFetch))
  | lockFetchCreateFail {s i c} (hph : (s.insts i).phase = .creating .lockFetch) (hl : s.lock = some c) :
      Step s (.lockFetch i (.ok c)) (setPhase s i (.creating .failing))
  | lockFetchLoad {s i c} (hph : (s.insts i).phase = .loading .lockFetch) (hl : s.lock = some c)
      (hcfg : (s.insts i).cfgBad = false) :
      Step s (.lockFetch i (.ok c)) (setPhase s i (.loading (.clock1 c)))
  | lockFetchLoadFail {s i r} (hph : (s.insts i).phase = .loading .lockFetch) :
      Step s (.lockFetch i r) (setPhase s i (.loading .failing))
  | lockCreateOk {s i c} (hph : (s.insts i).phase = .creating (.lockCreate c)) (hl : s.lock = none) :
      Step s (.lockCreate i c .ok) (setPhase (s.pushLock c) i (.creating (.ckptUpload c)))
  | lockCreateLost {s i c} (hph : (s.insts i).phase = .creating (.lockCreate c)) (hl : s.lock = none) :
      Step s (.lockCreate i c .errA) (setPhase (s.pushLock c) i (.creating .failing))
  | lockCreateFail {s i c r} (hph : (s.insts i).phase = .creating (.lockCreate c)) (hr : r.applied = false) :
      Step s (.lockCreate i c r) (setPhase s i (.creating .failing))
  | casOk {s i rd} (hph : (s.insts i).phase = .round rd) (hpc : rd.pc = .cas)
      (hl : s.lock = some (s.insts i).tree) (hs : rd.slots ≠ []) :
      Step s (.lockReplace i (s.insts i).tree rd.new .ok)
        ((s.pushLock rd.new).setInst i { s.insts i with
          tree := rd.new, phase := .round { rd with pc := .tiles [] false } })
  | casOkEmpty {s i rd} (hph : (s.insts i).phase = .round rd) (hpc : rd.pc = .cas)
      (hl : s.lock = some (s.insts i).tree) (hs : rd.slots = []) :
      Step s (.lockReplace i (s.insts i).tree rd.new .ok)
        ((s.pushLock rd.new).setInst i { s.insts i with tree := rd.new, phase := .round { rd with pc := .ckpt } })
  | casLost {s i rd} (hph : (s.insts i).phase = .round rd) (hpc : rd.pc = .cas)
      (hl : s.lock = some (s.insts i).tree) :
      Step s (.lockReplace i (s.insts i).tree rd.new .errA)
        (setPhase (s.pushLock rd.new) i (.round { rd with pc := .done .fatal }))
  | casFail {s i rd r} (hph : (s.insts i).phase = .round rd) (hpc : rd.pc = .cas) (hr : r.applied = false) :
      Step s (.lockReplace i (s.insts i).tree rd.new r) (setPhase s i (.round { rd with pc := .done .fatal }))
  | fetchCreate {s i r} (hph : (s.insts i).phase = .creating .ckptFetch) :
      Step s (.fetch i .ckpt r) (setPhase s i (.creating .clock))
  | fetchCreateFail {s i r} (hph : (s.insts i).phase = .creating .ckptFetch) :
      Step s (.fetch i .ckpt r) (setPhase s i (.creating .failing))
  | fetchCkpt {s i c c1 imm} (hph : (s.insts i).phase = .loading (.ckptFetch c))
      (hst : s.store .ckpt = some (.ck c1, imm)) :
      Step s (.fetch i .ckpt (.ok (.ck c1))) (setPhase s i (.loading (.clock2 c c1)))
  | fetchLegacy {s i c r} (hph : (s.insts i).phase = .loading (.legacy c)) :
      Step s (.fetch i (.legacyStaging c.leaves) r) (setPhase s i (.loading (.stagingFetch c)))
  | fetchStaging {s i c items imm} (hph : (s.insts i).phase = .loading (.stagingFetch c))
      (hst : s.store (.staging c.leaves) = some (.bundle items, imm)) :
      Step s (.fetch i (.staging c.leaves) (.ok (.bundle items))) (setPhase s i (.loading (.apply c items false)))
  | fetchEdge {s i c bad bad' k r} (hph : (s.insts i).phase = .loading (.edge c bad)) (hbad : bad = true → bad' = true) :
      Step s (.fetch i k r) (setPhase s i (.loading (.edge c bad')))
  | fetchCkptFail {s i c r} (hph : (s.insts i).phase = .loading (.ckptFetch c)) :
      Step s (.fetch i .ckpt r) (setPhase s i (.loading .failing))
  | fetchLegacyFail {s i c o} (hph : (s.insts i).phase = .loading (.legacy c)) :
      Step s (.fetch i (.legacyStaging c.leaves) (.ok o)) (setPhase s i (.loading .failing))
  | fetchStagingFail {s i c r} (hph : (s.insts i).phase = .loading (.stagingFetch c)) :
      Step s (.fetch i (.staging c.leaves) r) (setPhase s i (.loading .failing))
  | fetchIssuerNone {s i id r} (hup : isUp (s.insts i) = true) : Step s (.fetch i (.issuer id) r) s
  | fetchIssuerSeen {s i id} (hup : isUp (s.insts i) = true) :
      Step s (.fetch i (.issuer id) (.ok (.issuer id)))
        (s.setInst i { s.insts i with issuersSeen := id :: (s.insts i).issuersSeen })
  | fetchIssuerFail {s i id o} (hup : isUp (s.insts i) = true) :
      Step s (.fetch i (.issuer id) (.ok o)) (s.setInst i { s.insts i with issuerFailed := true })
  /- `st'` is the store after the upload -/
  | uploadCreateCkpt {s i c st'} (hph : (s.insts i).phase = .creating (.ckptUpload c))
      (hst : storeUpload s.store .ckpt false (.ck c) .ok = some st') :
      Step s (.upload i .ckpt false (.ck c) .ok) (setPhase (s.stored st' (c :: s.pubHist)) i (.creating .rootsUpload))
  | uploadCreateCkptFail {s i c r st'} (hph : (s.insts i).phase = .creating (.ckptUpload c)) (hr : r ≠ .ok)
      (hst : storeUpload s.store .ckpt false (.ck c) r = some st') :
      Step s (.upload i .ckpt false (.ck c) r)
        (setPhase (s.stored st' (if r.applied then c :: s.pubHist else s.pubHist)) i (.creating .failing))
  | uploadRoots {s i imm o st'} (hph : (s.insts i).phase = .creating .rootsUpload)
      (hst : storeUpload s.store .roots imm o .ok = some st') :
      Step s (.upload i .roots imm o .ok) (setPhase (s.stored st') i (.creating .done))
  | uploadRootsFail {s i imm o r st'} (hph : (s.insts i).phase = .creating .rootsUpload) (hr : r ≠ .ok)
      (hst : storeUpload s.store .roots imm o r = some st') :
      Step s (.upload i .roots imm o r) (setPhase (s.stored st') i (.creating .failing))
  | uploadStaging {s i rd items st'} (hph : (s.insts i).phase = .round rd) (hpc : rd.pc = .stage)
      (hb : bundleOK rd.old.leaves.length rd.new.leaves items = true)
      (hst : storeUpload s.store (.staging rd.new.leaves) true (.bundle items) .ok = some st') :
      Step s (.upload i (.staging rd.new.leaves) true (.bundle items) .ok)
        (setPhase (s.stored st') i (.round { rd with pc := .cas, bundle := tilesOfBundle items }))
  | uploadStagingFail {s i rd items r st'} (hph : (s.insts i).phase = .round rd) (hpc : rd.pc = .stage) (hr : r ≠ .ok)
      (hb : bundleOK rd.old.leaves.length rd.new.leaves items = true)
      (hst : storeUpload s.store (.staging rd.new.leaves) true (.bundle items) r = some st') :
      Step s (.upload i (.staging rd.new.leaves) true (.bundle items) r)
        (setPhase (s.stored st') i (.round { rd with pc := .done .failed }))
  | uploadTile {s i rd done failed t r st'} (hph : (s.insts i).phase = .round rd) (hpc : rd.pc = .tiles done failed)
      (hmem : t ∈ rd.bundle) (hnew : t ∉ done)
      (hst : storeUpload s.store (.tile t) true (.slice (t.slice rd.new.leaves)) r = some st') :
      Step s (.upload i (.tile t) true (.slice (t.slice rd.new.leaves)) r)
        (setPhase (s.stored st') i (.round { rd with pc := .tiles (t :: done) (failed || r != .ok) }))
  | uploadCkpt {s i rd st'} (hph : (s.insts i).phase = .round rd)
      (hready : rd.pc = .ckpt ∨ ∃ done, rd.pc = .tiles done false ∧ ∀ t ∈ rd.bundle, t ∈ done)
      (hst : storeUpload s.store .ckpt false (.ck rd.new) .ok = some st') (hs : rd.slots ≠ []) :
      Step s (.upload i .ckpt false (.ck rd.new) .ok)
        (setPhase (s.stored st' (rd.new :: s.pubHist)) i (.round { rd with pc := .discard, published := true }))
  | uploadCkptEmpty {s i rd st'} (hph : (s.insts i).phase = .round rd)
      (hready : rd.pc = .ckpt ∨ ∃ done, rd.pc = .tiles done false ∧ ∀ t ∈ rd.bundle, t ∈ done)
      (hst : storeUpload s.store .ckpt false (.ck rd.new) .ok = some st') (hs : rd.slots = []) :
      Step s (.upload i .ckpt false (.ck rd.new) .ok)
        (setPhase (s.stored st' (rd.new :: s.pubHist)) i (.round { rd with pc := .done .ok, published := true }))
  | uploadCkptFail {s i rd r st'} (hph : (s.insts i).phase = .round rd) (hr : r ≠ .ok)
      (hready : rd.pc = .ckpt ∨ ∃ done, rd.pc = .tiles done false ∧ ∀ t ∈ rd.bundle, t ∈ done)
      (hst : storeUpload s.store .ckpt false (.ck rd.new) r = some st') :
      Step s (.upload i .ckpt false (.ck rd.new) r)
        (setPhase (s.stored st' (if r.applied then rd.new :: s.pubHist else s.pubHist)) i (.round { rd with pc := .done .failed }))
  | uploadApplyLast {s i c rem failed t xs r st'} (hph : (s.insts i).phase = .loading (.apply c rem failed))
      (hmem : (t, xs) ∈ rem) (hlast : (rem.filter (fun p => p.1 != t)).isEmpty = true)
      (hok : (failed || r != .ok) = false)
      (hst : storeUpload s.store (.tile t) true (.slice xs) r = some st') :
      Step s (.upload i (.tile t) true (.slice xs) r) (setPhase (s.stored st') i (.loading (.edge c false)))
  | uploadApply {s i c rem failed t xs r st'} (hph : (s.insts i).phase = .loading (.apply c rem failed))
      (hmem : (t, xs) ∈ rem)
      (hmore : ¬ ((rem.filter (fun p => p.1 != t)).isEmpty = true ∧ (failed || r != .ok) = false))
      (hst : storeUpload s.store (.tile t) true (.slice xs) r = some st') :
      Step s (.upload i (.tile t) true (.slice xs) r)
        (setPhase (s.stored st') i (.loading (.apply c (rem.filter (fun p => p.1 != t)) (failed || r != .ok))))
  | uploadIssuer {s i id st'} (hup : isUp (s.insts i) = true)
      (hst : storeUpload s.store (.issuer id) true (.issuer id) .ok = some st') :
      Step s (.upload i (.issuer id) true (.issuer id) .ok)
        ((s.stored st').setInst i { s.insts i with issuersSeen := id :: (s.insts i).issuersSeen })
  | uploadIssuerFail {s i id r st'} (hup : isUp (s.insts i) = true) (hr : r ≠ .ok)
      (hst : storeUpload s.store (.issuer id) true (.issuer id) r = some st') :
      Step s (.upload i (.issuer id) true (.issuer id) r)
        ((s.stored st').setInst i { s.insts i with issuerFailed := true })
  | discard {s i rd r} (hph : (s.insts i).phase = .round rd) (hpc : rd.pc = .discard) :
      Step s (.discard i (.staging rd.new.leaves) r)
        (setPhase { s with
            store := if r.applied then updK s.store (.staging rd.new.leaves) none else s.store,
            discarded := if r.applied then .staging rd.new.leaves :: s.discarded else s.discarded }
          i (.round { rd with pc := .done .ok }))
  | submittedSame {s i eid key low iss src} : Step s (.submitted i eid key low iss src) s
  | submittedIssuer {s i eid key low iss src} :
      Step s (.submitted i eid key low iss src) (s.setInst i { s.insts i with issuerFailed := false })
  | submitted {s i eid key low iss src} (hev : (s.insts i).evictPending = false)
      (hfull : ¬ (s.poolSize > 0 ∧ (s.insts i).pool.length ≥ s.poolSize)) :
      Step s (.submitted i eid key low iss src)
        (s.setInst i { s.insts i with pool := (s.insts i).pool ++ [⟨eid, key, low⟩] })
  | submittedEvict {s i eid key low iss src} (hev : (s.insts i).evictPending = false)
      (hfull : s.poolSize > 0 ∧ (s.insts i).pool.length ≥ s.poolSize) :
      Step s (.submitted i eid key low iss src)
        (s.setInst i { s.insts i with pool := (s.insts i).pool ++ [⟨eid, key, low⟩], evictPending := true })
  | nackEvicted {s i eid key nw k} (hev : (s.insts i).evictPending = true)
      (hlast : (s.insts i).pool.getLast? = some nw)
      (hfind : (s.insts i).pool.dropLast.findIdx? (fun sl => sl.key == key && sl.low) = some k) :
      Step s (.nackEvicted i eid key) (s.setInst i { s.insts i with
        pool := (s.insts i).pool.dropLast.set k nw, poolEvicted := key :: (s.insts i).poolEvicted,
        evictedEver := key :: (s.insts i).evictedEver, evictPending := false })
  | nackEvictedLate {s i eid key} (hever : (s.insts i).evictedEver.contains key = true)
      (hnone : (s.insts i).evictPending = true → ∀ nw k, (s.insts i).pool.getLast? = some nw →
        (s.insts i).pool.dropLast.findIdx? (fun sl => sl.key == key && sl.low) = some k → False) :
      Step s (.nackEvicted i eid key) s
  | ack {s i eid key idx ts pub}
      (hsrc : cacheLookup (s.insts i).cache key = some (idx, ts) ∨
        ∃ rd l k, (s.insts i).phase = .round rd ∧ rd.pc = .done .ok ∧ rd.published = true ∧
          slotIndex rd.slots key = some k ∧ idx = rd.old.leaves.length + k ∧ ts = rd.new.time ∧
          rd.new.leaves[idx]? = some l ∧ l.key = key ∧ l.ts = ts)
      (hpub : ∀ c, pub = some c ↔ ∃ imm, s.store .ckpt = some (.ck c, imm)) :
      Step s (.ack i eid key idx ts) { s with acks := ⟨i, eid, key, idx, ts, pub⟩ :: s.acks }
  | nack {s i eid imm} : Step s (.nack i eid imm) s
  | created {s i} (hph : (s.insts i).phase = .creating .done) : Step s (.created i) (setPhase s i .down)
  | createFail {s i} (hph : (s.insts i).phase = .creating .failing) : Step s (.createFail i) (setPhase s i .down)
  | loaded {s i c} (hph : (s.insts i).phase = .loading (.edge c false)) :
      Step s (.loaded i c) (s.setInst i { s.insts i with phase := .idle, tree := c })
  | loadFail {s i pc} (hph : (s.insts i).phase = .loading pc)
      (hpc : match pc with | .failing | .apply _ _ true | .edge _ true => True | _ => False) :
      Step s (.loadFail i) (setPhase s i .down)
  | roundEndOk {s i rd} (hph : (s.insts i).phase = .round rd) (hpc : rd.pc = .done .ok) :
      Step s (.roundEnd i .ok) (s.setInst i { s.insts i with
        phase := .idle,
        cache := (s.insts i).cache ++
          (rd.new.leaves.zipIdx.drop rd.old.leaves.length).map fun (l, k) => (l.key, k, l.ts) })
  | roundEndFailed {s i rd c} (hph : (s.insts i).phase = .round rd) (hpc : rd.pc = .done .failed)
      (hc : c = .failed ∨ c = .ok) :
      Step s (.roundEnd i c) (setPhase s i .idle)
  | roundEndFatal {s i rd} (hph : (s.insts i).phase = .round rd)
      (hpc : rd.pc = .done .fatal ∨ ∃ done, rd.pc = .tiles done true ∧ ∀ t ∈ rd.bundle, t ∈ done) :
      Step s (.roundEnd i .fatal) (setPhase s i .stopped)
  | crash {s i} :
      Step s (.crash i) (s.setInst i { s.insts i with phase := .down, pool := [], poolEvicted := [], evictPending := false })
  | cacheLose {s i} (hph : (s.insts i).phase = .down) :
      Step s (.cacheLose i) (s.setInst i { s.insts i with cache := [] })
  | tamper {s k o} :
      Step s (.tamper k o) { s with store := updK s.store k (o.map fun v => (v, false)), tampered := true }

theorem Res.applied_ok : Res.ok.applied = true := rfl
theorem Res.applied_errA : Res.errA.applied = true := rfl
theorem Res.applied_errN : Res.errN.applied = false := rfl
theorem Res.applied_refused : Res.refused.applied = false := rfl

/-- the test a round's checkpoint upload makes on the tile batch -/
theorem ready_of {rd : Round}
    (h : (match rd.pc with
      | .ckpt => true
      | .tiles done failed => !failed && rd.bundle.all (done.contains ·)
      | _ => false) = true) :
    rd.pc = .ckpt ∨ ∃ done, rd.pc = .tiles done false ∧ ∀ t ∈ rd.bundle, t ∈ done := by
  cases hpc : rd.pc <;> simp_all

theorem mem_of_find_fst {rem : List (TileId × Tree)} {t t' : TileId} {xs : Tree}
    (h : rem.find? (fun p => p.1 == t) = some (t', xs)) : (t, xs) ∈ rem := by
  have := List.find?_some h
  simp only [beq_iff_eq] at this
  subst this
  exact List.mem_of_find?_eq_some h

theorem admission_cases (n : Nat) (p : List Slot) (l : Bool) :
    admission n p l = .ratelimit ∨ admission n p l = .sequencer := by
  unfold admission; split <;> (try split) <;> simp

/-- `addLeafToPool` as the model reads it: a pending issuer fault is reported first; then the lookups
    in the order pool, in-sequencing table, cache; only an entry found in none of them reaches the
    admission decision, and only an admitted one changes the state -/
theorem submitted_inv {s s' : Sys} {i eid key : Nat} {low : Bool} {iss : List Nat} {src : Src}
    (h : step s (.submitted i eid key low iss src) = some s') :
    isUp (s.insts i) = true ∧ (s.insts i).evictPending = false ∧
    (src = .issuer ∧ s' = s.setInst i { s.insts i with issuerFailed := false } ∨
     src = .pool ∧ ((s.insts i).pool.any (·.key == key) || (s.insts i).poolEvicted.contains key) = true ∧ s' = s ∨
     src = .pool ∧ inSequencing (s.insts i) key = true ∧ s' = s ∨
     src = .cache ∧ (cacheLookup (s.insts i).cache key).isSome = true ∧ s' = s ∨
     ((s.insts i).pool.any (·.key == key) || (s.insts i).poolEvicted.contains key) = false ∧
      inSequencing (s.insts i) key = false ∧ (cacheLookup (s.insts i).cache key).isSome = false ∧
      src = admission s.poolSize (s.insts i).pool low ∧
      (src = .ratelimit ∧ s' = s ∨
       src = .sequencer ∧ ¬ (s.poolSize > 0 ∧ (s.insts i).pool.length ≥ s.poolSize) ∧
        s' = s.setInst i { s.insts i with pool := (s.insts i).pool ++ [⟨eid, key, low⟩] } ∨
       src = .sequencer ∧ (s.poolSize > 0 ∧ (s.insts i).pool.length ≥ s.poolSize) ∧
        s' = s.setInst i { s.insts i with pool := (s.insts i).pool ++ [⟨eid, key, low⟩], evictPending := true })) := by
  simp only [step, Option.ite_none_left_eq_some, not_or, Bool.not_eq_true, Bool.not_eq_eq_eq_not, Bool.not_true,
    Bool.not_eq_false] at h
  obtain ⟨⟨hup, hev⟩, h⟩ := h
  refine ⟨hup, hev, ?_⟩
  by_cases hsrc : src = .issuer
  · rw [if_pos hsrc] at h
    split at h <;> cases h
    exact .inl ⟨hsrc, rfl⟩
  simp only [if_neg hsrc, Option.ite_none_left_eq_some] at h
  obtain ⟨-, -, h⟩ := h
  by_cases hp : ((s.insts i).pool.any (·.key == key) || (s.insts i).poolEvicted.contains key) = true
  · rw [if_pos hp] at h
    split at h <;> cases h
    exact .inr (.inl ⟨‹_›, hp, rfl⟩)
  rw [if_neg hp] at h
  by_cases hq : inSequencing (s.insts i) key = true
  · rw [if_pos hq] at h
    split at h <;> cases h
    exact .inr (.inr (.inl ⟨‹_›, hq, rfl⟩))
  rw [if_neg hq] at h
  by_cases hc : (cacheLookup (s.insts i).cache key).isSome = true
  · rw [if_pos hc] at h
    split at h <;> cases h
    exact .inr (.inr (.inr (.inl ⟨‹_›, hc, rfl⟩)))
  simp only [if_neg hc, Option.ite_none_left_eq_some, ne_eq, Decidable.not_not] at h
  obtain ⟨hd, h⟩ := h
  refine .inr (.inr (.inr (.inr ⟨by simpa using hp, by simpa using hq, by simpa using hc, hd, ?_⟩)))
  rcases admission_cases s.poolSize (s.insts i).pool low with ha | ha <;> rw [ha] at h <;> simp only at h
  · cases h; exact .inl ⟨hd.trans ha, rfl⟩
  · split at h <;> cases h
    · exact .inr (.inr ⟨hd.trans ha, ‹_›, rfl⟩)
    · exact .inr (.inl ⟨hd.trans ha, ‹_›, rfl⟩)
section
/-- Takes `h : step s e = some s'` apart: every branch of `step` that returns a state becomes a goal
`Step s e <that state>` with the tests on the way as hypotheses (negations pushed in, equations
substituted); a rule whose hypotheses are then all in the context is applied at once. -/
local macro "open_step" h:ident : tactic => `(tactic| (
  simp only [step] at $h:ident <;> (repeat' split at $h:ident) <;>
    (first | cases $h:ident | (injection $h:ident with $h:ident; subst $h:ident)) <;>
    (try simp only [not_or, ne_eq, Decidable.not_not, Bool.not_eq_true, Nat.not_le, Nat.not_lt] at *) <;>
    (try simp only [FRes.ok.injEq, Bool.not_eq_eq_eq_not, Bool.not_false, Bool.not_true, beq_iff_eq, reduceCtorEq,
      Res.applied_ok, Res.applied_errA, Res.applied_errN, Res.applied_refused, Bool.true_eq_false,
      Bool.false_eq_true] at *) <;>
    (repeat (cases ‹_ ∧ _›)) <;> (try subst_vars) <;>
    (try (constructor <;> first | assumption | rfl | omega | (simp_all; done)))))

/-- for a rule whose successor state contains an `if`: the branch taken is in the context -/
local macro "close_by" t:term : tactic =>
  `(tactic| (have := $t; simp only [*, ↓reduceIte, Bool.false_eq_true] at this; exact this))

theorem step_sound {s s' : Sys} {e : Ev} (h : step s e = some s') : Step s e s' := by
  cases e
  case clock =>
    open_step h
    all_goals first
      | exact .clockLoad1Fail ‹_› ‹_›
      | exact .clockLoad2Fail ‹_› (.inl ‹_›)
      | exact .clockLoad2Fail ‹_› (.inr ⟨fun h => by simp_all, by omega⟩)
  case loadFail => open_step h; all_goals exact .loadFail ‹_› trivial
  case roundEnd i c =>
    open_step h
    all_goals (cases c <;> first | (constructor <;> first | assumption | (simp_all; done)) | simp_all)
  case discard => open_step h; all_goals close_by Step.discard (r := ‹Res›) ‹_› ‹_›
  case upload =>
    open_step h
    all_goals first
      | exact .uploadTile ‹_› ‹_› (by simp_all) (by simp_all) ‹_›
      | exact .uploadApplyLast ‹_› (mem_of_find_fst ‹_›) ‹_› ‹_› ‹_›
      | exact .uploadApply ‹_› (mem_of_find_fst ‹_›) ‹_› ‹_›
      | exact .uploadCkpt ‹_› (ready_of ‹_›) ‹_› (by simp_all)
      | exact .uploadCkptEmpty ‹_› (ready_of ‹_›) ‹_› (by simp_all)
      | close_by Step.uploadCkptFail ‹_› ‹_› (ready_of ‹_›) ‹_›
      | close_by Step.uploadCreateCkptFail ‹_› ‹_› ‹_›
  case submitted =>
    obtain ⟨_, hev, h⟩ := submitted_inv h
    rcases h with ⟨_, rfl⟩ | ⟨_, _, rfl⟩ | ⟨_, _, rfl⟩ | ⟨_, _, rfl⟩ | ⟨_, _, _, _, ⟨_, rfl⟩ | ⟨_, hf, rfl⟩ | ⟨_, hf, rfl⟩⟩
    · exact .submittedIssuer
    · exact .submittedSame
    · exact .submittedSame
    · exact .submittedSame
    · exact .submittedSame
    · exact .submitted hev hf
    · exact .submittedEvict hev hf
  all_goals open_step h
end


theorem setInst_lockHist (s : Sys) (i : Nat) (x : Inst) : (s.setInst i x).lockHist = s.lockHist := rfl
theorem setInst_lock (s : Sys) (i : Nat) (x : Inst) : (s.setInst i x).lock = s.lock := rfl
theorem setInst_pubHist (s : Sys) (i : Nat) (x : Inst) : (s.setInst i x).pubHist = s.pubHist := rfl

theorem setPhase_phase (s : Sys) (i : Nat) (p : Phase) : ((setPhase s i p).insts i).phase = p := by
  simp [setPhase, Sys.setInst, upd]

theorem setPhase_tree (s : Sys) (i : Nat) (p : Phase) : ((setPhase s i p).insts i).tree = (s.insts i).tree := by
  simp [setPhase, Sys.setInst, upd]

/-! ### the object store under an upload -/

theorem storeUpload_cases {st st' : Store} {k : Key} {imm : Bool} {o : Obj} {r : Res}
    (h : storeUpload st k imm o r = some st') :
    (r.applied = true ∧ st' = updK st k (some (o, imm)) ∧ ∀ old, st k = some (old, true) → old = o) ∨
    (r.applied = false ∧ st' = st) := by
  unfold storeUpload at h
  split at h
  · split at h <;> cases r <;> simp_all [Res.applied]
  · cases r <;> simp_all [Res.applied]

theorem storeUpload_other {st st' : Store} {k k' : Key} {imm : Bool} {o : Obj} {r : Res}
    (h : storeUpload st k imm o r = some st') (hk : k' ≠ k) : st' k' = st k' := by
  rcases storeUpload_cases h with ⟨_, rfl, _⟩ | ⟨_, rfl⟩ <;> simp [updK, hk]

theorem storeUpload_at {st st' : Store} {k : Key} {imm : Bool} {o : Obj} {r : Res}
    (h : storeUpload st k imm o r = some st') (hr : r.applied = true) : st' k = some (o, imm) := by
  rcases storeUpload_cases h with ⟨_, rfl, _⟩ | ⟨hn, _⟩
  · simp [updK]
  · rw [hr] at hn; cases hn

theorem storeUpload_not_applied {st st' : Store} {k : Key} {imm : Bool} {o : Obj} {r : Res}
    (h : storeUpload st k imm o r = some st') (hr : r.applied = false) : st' = st := by
  rcases storeUpload_cases h with ⟨ha, _⟩ | ⟨_, rfl⟩
  · rw [hr] at ha; cases ha
  · rfl

theorem storeUpload_at_cases {st st' : Store} {k : Key} {imm : Bool} {o : Obj} {r : Res}
    (h : storeUpload st k imm o r = some st') : st' k = st k ∨ st' k = some (o, imm) := by
  cases hr : r.applied
  · exact .inl (by rw [storeUpload_not_applied h hr])
  · exact .inr (storeUpload_at h hr)

theorem storeUpload_some {st st' : Store} {k k' : Key} {imm : Bool} {o : Obj} {r : Res}
    (h : storeUpload st k imm o r = some st') (hs : (st k').isSome) : (st' k').isSome := by
  by_cases hk : k' = k
  · subst hk
    rcases storeUpload_at_cases h with h1 | h1 <;> rw [h1]
    · exact hs
    · rfl
  · rw [storeUpload_other h hk]; exact hs

theorem storeUpload_ok {st : Store} {k : Key} {o : Obj} (h : ∀ old, st k = some (old, true) → old = o) :
    storeUpload st k true o .ok = some (updK st k (some (o, true))) := by
  unfold storeUpload
  split
  · rename_i old heq
    simp [h old heq]
  · rfl

/-! ### what a step does to the shared state -/

attribute [local simp] setPhase Sys.setInst Sys.pushLock Sys.stored upd

namespace Step
variable {s s' : Sys} {e : Ev}

theorem poolSize (h : Step s e s') : s'.poolSize = s.poolSize := by
  cases h <;> rfl

theorem others (h : Step s e s') {j : Nat} (hj : e.inst ≠ some j) : s'.insts j = s.insts j := by
  cases h <;> simp_all [Ev.inst] <;> (intro hh; exact absurd hh.symm hj)

theorem tampered (h : Step s e s') (ht : s'.tampered = false) : s.tampered = false ∧ ∀ k o, e ≠ .tamper k o := by
  cases h <;> simp_all

end Step

/-- What a step does to the lock store: nothing; or instance `i` commits `c`, at the end of a log creation on an empty
    lock store, or by a round's compare-and-swap of its new tree against the tree it holds. The object store is not
    touched. -/
inductive LockChange (s : Sys) (e : Ev) (s' : Sys) : Prop
  | same (lock : s'.lock = s.lock) (hist : s'.lockHist = s.lockHist)
  | commit {i : Nat} {c : Ck} (inst : e.inst = some i) (lock : s'.lock = some c) (hist : s'.lockHist = c :: s.lockHist)
      (store : s'.store = s.store)
      (who : ((s.insts i).phase = .creating (.lockCreate c) ∧ s.lock = none) ∨
        ∃ rd, (s.insts i).phase = .round rd ∧ rd.pc = .cas ∧ rd.new = c ∧ s.lock = some (s.insts i).tree)

/-- The checkpoint object and the publication history change together, and only by a checkpoint upload that takes
    effect: the one of log creation, or the one of a round whose tile batch is over. -/
inductive PubChange (s : Sys) (e : Ev) (s' : Sys) : Prop
  | same (pubHist : s'.pubHist = s.pubHist) (ckpt : s'.store .ckpt = s.store .ckpt ∨ ∃ k o, e = .tamper k o)
  | publish {i : Nat} {c : Ck} (pubHist : s'.pubHist = c :: s.pubHist) (ckpt : s'.store .ckpt = some (.ck c, false))
      (who : (s.insts i).phase = .creating (.ckptUpload c) ∨
        ∃ rd, (s.insts i).phase = .round rd ∧ rd.new = c ∧
          (rd.pc = .ckpt ∨ ∃ done, rd.pc = .tiles done false ∧ ∀ t ∈ rd.bundle, t ∈ done))

/-- The object store changes only by an upload (as `storeUpload` says; tiles are uploaded immutable), by a round
    discarding the bundle of the tree it has published, or by tampering. -/
inductive StoreChange (s : Sys) (e : Ev) (s' : Sys) : Prop
  | same (store : s'.store = s.store)
  | upload {i : Nat} {k : Key} {imm : Bool} {o : Obj} {r : Res} (ev : e = .upload i k imm o r)
      (store : storeUpload s.store k imm o r = some s'.store) (tile_imm : ∀ t, k = .tile t → imm = true)
  | discard {i : Nat} {rd : Round} {r : Res} (ev : e = .discard i (.staging rd.new.leaves) r)
      (phase : (s.insts i).phase = .round rd) (pc : rd.pc = .discard)
      (store : s'.store = updK s.store (.staging rd.new.leaves) none)
  | tamper {k : Key} {o : Option Obj} (ev : e = .tamper k o)

/-- Acknowledgements are recorded by `ack` events only: from the cache, or by a round that has published, for a leaf
    of its new tree; `pubAt` records what the checkpoint object holds at that moment. -/
inductive AcksChange (s : Sys) (e : Ev) (s' : Sys) : Prop
  | same (acks : s'.acks = s.acks)
  | ack {a : Ack} (acks : s'.acks = a :: s.acks) (pubHist : s'.pubHist = s.pubHist)
      (pubAt : ∀ c, a.pubAt = some c ↔ ∃ imm, s.store .ckpt = some (.ck c, imm))
      (src : cacheLookup (s.insts a.inst).cache a.key = some (a.idx, a.ts) ∨
        ∃ rd l, (s.insts a.inst).phase = .round rd ∧ rd.pc = .done .ok ∧ rd.published = true ∧
          rd.new.leaves[a.idx]? = some l ∧ l.key = a.key ∧ l.ts = a.ts)

/-- A staging upload is issued by a round `rd` in the `stage` state, for that round's new tree, with exactly the
    tiles `items` of its growth step. -/
structure StagingUpload (s : Sys) (i : Nat) (tr : Tree) (imm : Bool) (o : Obj) (rd : Round)
    (items : List (TileId × Tree)) : Prop where
  phase : (s.insts i).phase = .round rd
  pc : rd.pc = .stage
  tree : tr = rd.new.leaves
  obj : o = .bundle items
  imm : imm = true
  bundle : bundleOK rd.old.leaves.length rd.new.leaves items = true

namespace Step
variable {s s' : Sys} {e : Ev}

theorem lock_cases (h : Step s e s') : LockChange s e s' := by
  cases h with
  | lockCreateOk hph hl | lockCreateLost hph hl => exact .commit rfl rfl rfl rfl (.inl ⟨hph, hl⟩)
  | casOk hph hpc hl | casOkEmpty hph hpc hl | casLost hph hpc hl =>
    exact .commit rfl rfl rfl rfl (.inr ⟨_, hph, hpc, rfl, hl⟩)
  | _ => exact .same rfl rfl

theorem pub_cases (h : Step s e s') : PubChange s e s' := by
  cases h with
  | uploadCreateCkpt hph hst => exact .publish rfl (storeUpload_at hst rfl) (.inl hph)
  | uploadCkpt hph hready hst | uploadCkptEmpty hph hready hst =>
    exact .publish rfl (storeUpload_at hst rfl) (.inr ⟨_, hph, rfl, hready⟩)
  | @uploadCreateCkptFail _ _ r _ hph _ hst =>
    cases hr : r.applied
    · exact .same (by simp) (.inl (by rw [← storeUpload_not_applied hst hr]; rfl))
    · exact .publish (by simp) (storeUpload_at hst hr) (.inl hph)
  | @uploadCkptFail _ _ r _ hph _ hready hst =>
    cases hr : r.applied
    · exact .same (by simp) (.inl (by rw [← storeUpload_not_applied hst hr]; rfl))
    · exact .publish (by simp) (storeUpload_at hst hr) (.inr ⟨_, hph, rfl, hready⟩)
  | uploadRoots _ hst | uploadRootsFail _ _ hst | uploadStaging _ _ _ hst | uploadStagingFail _ _ _ _ hst
  | uploadTile _ _ _ _ hst | uploadApplyLast _ _ _ _ hst | uploadApply _ _ _ hst | uploadIssuer _ hst
  | uploadIssuerFail _ _ hst =>
    exact .same rfl (.inl (storeUpload_other hst (by simp)))
  | @discard _ _ r => exact .same rfl (.inl (by cases r.applied <;> simp [updK]))
  | tamper => exact .same rfl (.inr ⟨_, _, rfl⟩)
  | _ => exact .same rfl (.inl rfl)

theorem store_cases (h : Step s e s') : StoreChange s e s' := by
  cases h with
  | @discard _ _ r hph hpc =>
    cases hr : r.applied
    · exact .same (by simp)
    · exact .discard rfl hph hpc (by simp)
  | tamper => exact .tamper rfl
  | uploadCreateCkpt _ hst | uploadCreateCkptFail _ _ hst | uploadRoots _ hst | uploadRootsFail _ _ hst
  | uploadStaging _ _ _ hst | uploadStagingFail _ _ _ _ hst | uploadTile _ _ _ _ hst | uploadCkpt _ _ hst
  | uploadCkptEmpty _ _ hst | uploadCkptFail _ _ _ hst | uploadApplyLast _ _ _ _ hst | uploadApply _ _ _ hst
  | uploadIssuer _ hst | uploadIssuerFail _ _ hst =>
    exact .upload rfl hst (by intro t ht; first | rfl | cases ht)
  | _ => exact .same rfl

theorem obj_cases (h : Step s e s') (ht : s'.tampered = false) {k : Key} {o : Obj} {imm : Bool}
    (hs : s'.store k = some (o, imm)) : s.store k = some (o, imm) ∨ ∃ i r, e = .upload i k imm o r := by
  cases h.store_cases with
  | same hsame => exact .inl (hsame ▸ hs)
  | @upload i k' _ _ r ev hup =>
    by_cases hk : k = k'
    · subst hk
      rcases storeUpload_at_cases hup with h0 | h0 <;> rw [h0] at hs
      · exact .inl hs
      · cases hs; exact .inr ⟨i, r, ev⟩
    · rw [storeUpload_other hup hk] at hs; exact .inl hs
  | @discard _ rd _ _ _ _ hd =>
    rw [hd] at hs
    by_cases hk : k = .staging rd.new.leaves <;> simp [updK, hk] at hs
    exact .inl hs
  | tamper ev => exact absurd ev ((h.tampered ht).2 _ _)

theorem acks_cases (h : Step s e s') : AcksChange s e s' := by
  cases h with
  | ack hsrc hpub =>
    exact .ack (a := ⟨_, _, _, _, _, _⟩) rfl rfl hpub
      (hsrc.imp_right fun ⟨rd, l, _, h1, h2, h3, _, _, _, h⟩ => ⟨rd, l, h1, h2, h3, h⟩)
  | _ => exact .same rfl

theorem upload_ckpt {i : Nat} {imm : Bool} {o : Obj} {r : Res} (h : Step s (.upload i .ckpt imm o r) s') :
    imm = false ∧ ∃ c, o = .ck c ∧ s'.pubHist = if r.applied then c :: s.pubHist else s.pubHist := by
  cases h <;> exact ⟨rfl, _, rfl, rfl⟩

theorem upload_staging {i : Nat} {tr : Tree} {imm : Bool} {o : Obj} {r : Res}
    (h : Step s (.upload i (.staging tr) imm o r) s') : ∃ rd items, StagingUpload s i tr imm o rd items := by
  cases h with
  | uploadStaging hph hpc hb | uploadStagingFail hph hpc _ hb => exact ⟨_, _, hph, hpc, rfl, rfl, rfl, hb⟩

theorem upload_tile {i : Nat} {t : TileId} {imm : Bool} {o : Obj} {r : Res}
    (h : Step s (.upload i (.tile t) imm o r) s') :
    imm = true ∧
    ((∃ rd done failed, (s.insts i).phase = .round rd ∧ rd.pc = .tiles done failed ∧
        o = .slice (t.slice rd.new.leaves) ∧ t ∈ rd.bundle) ∨
     (∃ c rem failed xs, (s.insts i).phase = .loading (.apply c rem failed) ∧ (t, xs) ∈ rem ∧ o = .slice xs)) := by
  cases h with
  | uploadTile hph hpc hmem => exact ⟨rfl, .inl ⟨_, _, _, hph, hpc, rfl, hmem⟩⟩
  | uploadApplyLast hph hmem | uploadApply hph hmem => exact ⟨rfl, .inr ⟨_, _, _, _, hph, hmem, rfl⟩⟩

theorem upload_key {i : Nat} {k : Key} {imm : Bool} {o : Obj} {r : Res} (h : Step s (.upload i k imm o r) s') :
    k = .ckpt ∨ k = .roots ∨ (∃ t, k = .staging t) ∨ (∃ t, k = .tile t) ∨ (∃ id, k = .issuer id) := by
  cases h <;> simp

theorem discarded_cases (h : Step s e s') : s'.discarded = s.discarded ∨ ∃ t, s'.discarded = .staging t :: s.discarded := by
  cases h with
  | @discard _ _ r => cases hr : r.applied <;> simp
  | _ => exact .inl rfl

end Step

/-! ### single events, as the properties quote them -/

theorem discard_only_after_publish (s s' : Sys) (i : Nat) (k : Key) (r : Res)
    (h : step s (.discard i k r) = some s') :
    ∃ rd, (s.insts i).phase = .round rd ∧ rd.pc = .discard ∧ k = .staging rd.new.leaves := by
  cases step_sound h with
  | discard hph hpc => exact ⟨_, hph, hpc, rfl⟩

theorem submitted_noop (s s' : Sys) (i eid key : Nat) (low : Bool) (iss : List Nat) (src : Src)
    (hsrc : src = .pool ∨ src = .cache ∨ src = .ratelimit)
    (h : step s (.submitted i eid key low iss src) = some s') : s' = s := by
  obtain ⟨_, _, h⟩ := submitted_inv h
  rcases h with ⟨rfl, _⟩ | ⟨_, _, h⟩ | ⟨_, _, h⟩ | ⟨_, _, h⟩ | ⟨_, _, _, _, ⟨_, h⟩ | ⟨rfl, _⟩ | ⟨rfl, _⟩⟩
  any_goals exact h
  all_goals simp at hsrc

theorem round_new_tree (s s' : Sys) (i v : Nat) (rd : Round)
    (hph : (s.insts i).phase = .round rd) (hpc : rd.pc = .clock) (hv : (s.insts i).tree.time < v)
    (h : step s (.clock i v) = some s') :
    ∃ rd', (s'.insts i).phase = .round rd' ∧ rd'.slots = rd.slots ∧
      rd'.new = ⟨(s.insts i).tree.leaves ++ leavesOf rd.slots v, v⟩ := by
  have : ¬ v ≤ (s.insts i).tree.time := by omega
  simp only [step, hph, hpc, this, if_false] at h
  injection h with h; subst h
  simp [Sys.setInst, upd]

theorem loaded_sound (s s' : Sys) (i : Nat) (c : Ck) (h : step s (.loaded i c) = some s') :
    (s.insts i).phase = .loading (.edge c false) ∧ (s'.insts i).tree = c := by
  cases step_sound h with
  | loaded hph => exact ⟨hph, by simp [Sys.setInst, upd]⟩

end Seq
