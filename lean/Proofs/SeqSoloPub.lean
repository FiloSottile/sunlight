import Proofs.SeqSolo
/-! Publication order with one live process at a time (the quantifier of C01–C03). Without tampering the
checkpoint object is the head of `pubHist`, for any number of instances (`ckHead_reachable`). That `pubHist` is
monotone (`pubMono_reachable`), and hence that the checkpoint object covers an acknowledged index with that
entry and timestamp at the instant of the acknowledgement and ever after (`ackPub_reachable`,
`acks_readable_now`), needs `ReachableSolo`: with two overlapping instances it is false (finding F3,
`C06_pub_order_not_monotone_witness`). -/
namespace Seq

def PubMono (P : List Ck) : Prop :=
  P.Pairwise (fun newer older => older.leaves <+: newer.leaves ∧ older.time ≤ newer.time)

def CkHead (s : Sys) : Prop := s.store .ckpt = s.pubHist.head?.map (fun c => (Obj.ck c, false))

theorem pubMono_step (s s' : Sys) (e : Ev) (hs : SoloInv s) (h1 : Inv s) (hm : PubMono s.pubHist)
    (h : step s e = some s') : PubMono s'.pubHist := by
  cases (step_sound h).pub_cases with
  | same hsame => rw [hsame]; exact hm
  | publish hp _ hwho =>
    -- the uploader holds the lock checkpoint, which extends everything ever committed
    rw [hp]
    exact List.Pairwise.cons (fun b hb => lock_extends_hist h1 (hs.uploader_holds_lock h1 hwho) b (h1.pub b hb)) hm

theorem pubMono_reachable {s : Sys} (r : ReachableSolo s) (ht : s.tampered = false) : PubMono s.pubHist := by
  induction r with
  | init p => simp [init, PubMono]
  | @step s0 s1 e r0 h _ ih =>
    have ht0 := ((step_sound h).tampered ht).1
    exact pubMono_step s0 s1 e (soloInv_reachable r0 ht0) (inv_reachable r0.reachable) (ih ht0) h

theorem ckHead_step (s s' : Sys) (e : Ev) (hc : CkHead s) (h : step s e = some s') (ht : s'.tampered = false) :
    CkHead s' := by
  have hS := step_sound h
  unfold CkHead at *
  cases hS.pub_cases with
  | same hp hck =>
    rcases hck with hsame | ⟨k, o, rfl⟩
    · rw [hp, hsame]; exact hc
    · exact absurd rfl ((hS.tampered ht).2 k o)
  | publish hp hck => rw [hp, hck]; rfl

theorem ckHead_reachable {s : Sys} (r : Reachable s) : s.tampered = false → CkHead s :=
  r.induction (fun p _ => by simp [CkHead, init]) fun s e s' _ ih h ht =>
    ckHead_step s s' e (ih ((step_sound h).tampered ht).1) h ht

theorem hasLeaf_head {h : Ck} {rest : List Ck} (hm : PubMono (h :: rest)) {key idx ts : Nat}
    (hl : HasLeaf (h :: rest) key idx ts) : ∃ l, h.leaves[idx]? = some l ∧ l.key = key ∧ l.ts = ts := by
  obtain ⟨c, hc, l, h1, h2, h3⟩ := hl
  cases hc with
  | head => exact ⟨l, h1, h2, h3⟩
  | tail _ hc' =>
    have hpre := ((List.pairwise_cons.1 hm).1 c hc').1
    have hlt : idx < c.leaves.length := (List.getElem?_eq_some_iff.1 h1).1
    exact ⟨l, (prefix_getElem? hpre hlt).trans h1, h2, h3⟩

theorem hasLeaf_ckpt {s : Sys} (hck : CkHead s) (hm : PubMono s.pubHist) {key idx ts : Nat}
    (hl : HasLeaf s.pubHist key idx ts) :
    ∃ c, s.store .ckpt = some (.ck c, false) ∧ ∃ l, c.leaves[idx]? = some l ∧ l.key = key ∧ l.ts = ts := by
  cases hP : s.pubHist with
  | nil => rw [hP] at hl; obtain ⟨c, hc, _⟩ := hl; cases hc
  | cons hd rest =>
    unfold CkHead at hck
    rw [hP] at hck hm hl
    exact ⟨hd, hck, hasLeaf_head hm hl⟩

def AckPub (s : Sys) : Prop :=
  ∀ a ∈ s.acks, ∃ c, a.pubAt = some c ∧ ∃ l, c.leaves[a.idx]? = some l ∧ l.key = a.key ∧ l.ts = a.ts

theorem ackPub_step (s s' : Sys) (e : Ev) (ha : AckPub s) (hck : CkHead s) (hm : PubMono s.pubHist)
    (h2' : Inv2 s') (h : step s e = some s') : AckPub s' := by
  cases (step_sound h).acks_cases with
  | same hsame => unfold AckPub; rw [hsame]; exact ha
  | ack hacks hpub hat =>
    intro a' hmem
    rw [hacks] at hmem
    rcases List.mem_cons.1 hmem with rfl | hmem
    · -- the acknowledged leaf is in a published tree, hence in the checkpoint object the ack records
      have hl := h2'.acks a' (by rw [hacks]; exact List.mem_cons_self)
      rw [hpub] at hl
      obtain ⟨c, hc, hleaf⟩ := hasLeaf_ckpt hck hm hl
      exact ⟨c, (hat c).2 ⟨_, hc⟩, hleaf⟩
    · exact ha a' hmem

theorem ackPub_reachable {s : Sys} (r : ReachableSolo s) (ht : s.tampered = false) : AckPub s := by
  induction r with
  | init p => intro a ha; simp [init] at ha
  | @step s0 s1 e r0 h hsolo ih =>
    have ht0 := ((step_sound h).tampered ht).1
    exact ackPub_step s0 s1 e (ih ht0) (ckHead_reachable r0.reachable ht0) (pubMono_reachable r0 ht0)
      (inv2_reachable (r0.reachable.step h)) h

theorem acks_readable_now {s : Sys} (r : ReachableSolo s) (ht : s.tampered = false) :
    ∀ a ∈ s.acks, ∃ c, s.store .ckpt = some (.ck c, false) ∧
      ∃ l, c.leaves[a.idx]? = some l ∧ l.key = a.key ∧ l.ts = a.ts :=
  fun a ha => hasLeaf_ckpt (ckHead_reachable r.reachable ht) (pubMono_reachable r ht)
    ((inv2_reachable r.reachable).acks a ha)

end Seq
