import Model.Skylight
/-! `firstFail` is `List.find?` on the negated condition, and a line of `/health` is a failure exactly when its entry is
not staging and one of its conditions fails. -/
namespace Skylight.Health

theorem firstFail_eq_find? {κ : Type} (holds : κ → Bool) (l : List κ) :
    firstFail holds l = l.find? (fun k => !holds k) := by
  induction l with
  | nil => rfl
  | cons a rest ih => cases h : holds a <;> simp [firstFail, h, ih]

theorem firstFail_none_iff {κ : Type} (holds : κ → Bool) (l : List κ) :
    firstFail holds l = none ↔ ∀ k ∈ l, holds k = true := by
  simp [firstFail_eq_find?]

theorem firstFail_some_mem {κ : Type} {holds : κ → Bool} {l : List κ} {k : κ} (h : firstFail holds l = some k) :
    k ∈ l ∧ holds k = false := by
  rw [firstFail_eq_find?] at h
  exact ⟨List.mem_of_find?_eq_some h, by simpa using List.find?_some h⟩

theorem exists_fail_iff {κ : Type} (holds : κ → Bool) (l : List κ) :
    (∃ k ∈ l, holds k = false) ↔ firstFail holds l ≠ none := by
  simp [firstFail_none_iff]

theorem firstFail_single {κ : Type} {holds : κ → Bool} {l : List κ} {k : κ} (hk : k ∈ l)
    (hf : holds k = false) (hothers : ∀ k' ∈ l, k' ≠ k → holds k' = true) : firstFail holds l = some k := by
  cases h : firstFail holds l with
  | none => rw [(firstFail_none_iff _ _).mp h k hk] at hf; cases hf
  | some k' =>
    obtain ⟨hm, hf'⟩ := firstFail_some_mem h
    by_cases hkk : k' = k
    · rw [hkk]
    · rw [hothers k' hm hkk] at hf'; cases hf'

theorem report_failed_iff (staging : Bool) (k : ErrKind) : (report staging k).isFailed = true ↔ staging = false := by
  cases staging <;> simp [report, Outcome.isFailed]

theorem logLine_failed_iff (e : LogEntry) :
    (logLine e).2.isFailed = true ↔ e.staging = false ∧ ∃ k ∈ LogCond.applicable e.past, e.holds k = false := by
  rw [exists_fail_iff]
  unfold logLine checkLog
  cases firstFail e.holds (LogCond.applicable e.past) with
  | none => cases e.past <;> simp [Outcome.isFailed]
  | some k => simp [report_failed_iff]

theorem wlogLine_failed_iff (w : WitEntry) (l : WLog) :
    (wlogLine w l).2.isFailed = true ↔ w.staging = false ∧ ∃ k ∈ WLogCond.applicable w.mirror, l.holds k = false := by
  rw [exists_fail_iff]
  unfold wlogLine
  cases firstFail l.holds (WLogCond.applicable w.mirror) with
  | none => simp [Outcome.isFailed]
  | some k => simp [report_failed_iff]

def WitEntry.allHold (w : WitEntry) : Prop :=
  (∀ k ∈ WitCond.applicable w.mirror, w.holds k = true) ∧
  ∀ l ∈ w.logs, ∀ k ∈ WLogCond.applicable w.mirror, l.holds k = true

theorem WitEntry.not_allHold_iff (w : WitEntry) : ¬ w.allHold ↔
    (∃ k ∈ WitCond.applicable w.mirror, w.holds k = false) ∨
      ∃ l ∈ w.logs, ∃ k ∈ WLogCond.applicable w.mirror, l.holds k = false := by
  unfold WitEntry.allHold
  rw [Classical.not_and_iff_not_or_not]
  simp

theorem witLines_failed_iff (w : WitEntry) :
    (witLines w).any (·.2.isFailed) = true ↔ w.staging = false ∧ ¬ w.allHold := by
  rw [w.not_allHold_iff, exists_fail_iff]
  unfold witLines
  cases firstFail w.holds (WitCond.applicable w.mirror) with
  | some k => simp [report_failed_iff]
  | none =>
    simp only [List.any_map, List.any_eq_true, Function.comp, wlogLine_failed_iff, ne_eq, not_true, false_or]
    exact ⟨fun ⟨l, hl, hs, h⟩ => ⟨hs, l, hl, h⟩, fun ⟨hs, l, hl, h⟩ => ⟨l, hl, hs, h⟩⟩

theorem status_200_iff (c : Config) : status c = 200 ↔ (lines c).any (·.2.isFailed) = false := by
  unfold status
  cases h : (lines c).any (·.2.isFailed) <;> simp

theorem lines_any_failed (c : Config) :
    (lines c).any (·.2.isFailed) = true ↔
      (∃ e ∈ c.logs, e.staging = false ∧ ∃ k ∈ LogCond.applicable e.past, e.holds k = false) ∨
      (∃ w ∈ c.wits, w.staging = false ∧ ¬ w.allHold) := by
  simp only [lines, List.any_append, List.any_map, List.any_flatMap, Bool.or_eq_true, List.any_eq_true (l := c.logs),
    List.any_eq_true (l := c.wits), Function.comp, logLine_failed_iff, witLines_failed_iff]

theorem mem_lines_log {c : Config} {e : LogEntry} (he : e ∈ c.logs) : logLine e ∈ lines c :=
  List.mem_append.mpr (Or.inl (List.mem_map.mpr ⟨e, he, rfl⟩))

theorem mem_lines_wit {c : Config} {w : WitEntry} {ln : Line} (hw : w ∈ c.wits) (h : ln ∈ witLines w) : ln ∈ lines c :=
  List.mem_append.mpr (Or.inr (List.mem_flatMap.mpr ⟨w, hw, h⟩))

theorem status_500_of_failed {c : Config} {ln : Line} (h : ln ∈ lines c) (hf : ln.2.isFailed = true) : status c = 500 :=
  if_pos (List.any_eq_true.mpr ⟨ln, h, hf⟩)

end Skylight.Health
