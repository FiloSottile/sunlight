import Model.Mirror
import Proofs.TileAuth
/-! The overlay reader `Mirror.hyb` is sound (`hyb_sound`, `tileData_sound`): what
`torchwood.HashReaderOverlay` + `tlog.ReadTileData` compute is the tile of the log when the backend tiles it
reads and the appended record hashes are the log's. The arithmetic of `tlog.NewTiles`: the tiles of the new
tree are those of the old tree plus the new ones (`isTile_or_new`). -/
namespace Mirror
open Merkle Witness

variable (node : Hash → Hash → Hash) (emptyHash : Hash)

theorem rng_take_of_le (B : List Hash) {n lo hi : Nat} (h : hi ≤ n) :
    rng (B.take n) lo hi = rng B lo hi := by
  simpa [rng_zero] using rng_rng B (lo := 0) (hi := n) (u := lo) (v := hi) (by omega)

theorem rng_append (B : List Hash) {a b c : Nat} (h1 : a ≤ b) (h2 : b ≤ c) :
    rng B a b ++ rng B b c = rng B a c := by
  have e : a + (b - a) = b := by omega
  rw [← List.take_append_drop (b - a) (rng B a c), rng_take B (by omega), rng_drop B (by omega), e]

theorem rng_map {α β : Type} (f : α → β) (E : List α) (lo hi : Nat) :
    (E.map f |>.drop lo |>.take (hi - lo)) = ((E.drop lo).take (hi - lo)).map f := by
  rw [List.map_take, List.map_drop]

theorem rng_map_eq {α β : Type} (f : α → β) (E : List α) (lo hi : Nat) :
    rng (E.map f) lo hi = (rng E lo hi).map f := rng_map f E lo hi

theorem mth_rng_pow2 (B : List Hash) {a k : Nat} (h : a + 2 ^ (k + 1) ≤ B.length) :
    mth node emptyHash (rng B a (a + 2 ^ (k + 1))) =
      node (mth node emptyHash (rng B a (a + 2 ^ k))) (mth node emptyHash (rng B (a + 2 ^ k) (a + 2 ^ (k + 1)))) := by
  have hlt : 2 ^ k < 2 ^ (k + 1) := Nat.pow_lt_pow_right (by decide) (Nat.lt_succ_self k)
  rw [mth_rng_unfold node emptyHash B h (by omega), Nat.add_sub_cancel_left, split_unique hlt (Nat.le_refl _)]

def roots (B : List Hash) (c s cnt : Nat) : List Hash :=
  (List.range cnt).map fun t => mth node emptyHash (rng B ((s + t) * c) ((s + t + 1) * c))

theorem roots_take (B : List Hash) (c s : Nat) {q cnt : Nat} (h : q ≤ cnt) :
    (roots node emptyHash B c s cnt).take q = roots node emptyHash B c s q := by
  apply List.ext_getElem
  · simp [roots]; omega
  · intro i h1 h2
    simp [roots, List.getElem_take]

theorem roots_drop (B : List Hash) (c s q cnt : Nat) :
    (roots node emptyHash B c s cnt).drop q = roots node emptyHash B c (s + q) (cnt - q) := by
  apply List.ext_getElem
  · simp [roots]
  · intro i h1 h2
    simp only [roots, List.getElem_drop, List.getElem_map, List.getElem_range]
    rw [Nat.add_assoc s q i]

theorem roots_rng (B : List Hash) (c s : Nat) {off q cnt : Nat} (h : off + q ≤ cnt) :
    rng (roots node emptyHash B c s cnt) off (off + q) = roots node emptyHash B c (s + off) q := by
  unfold rng
  rw [roots_drop, Nat.add_sub_cancel_left, roots_take node emptyHash B c (s + off) (by omega : q ≤ cnt - off)]

theorem mth_roots_pow2 (B : List Hash) (m k s : Nat) (h : s * 2 ^ m + 2 ^ (k + m) ≤ B.length) :
    mth node emptyHash (roots node emptyHash B (2 ^ m) s (2 ^ k)) =
      mth node emptyHash (rng B (s * 2 ^ m) (s * 2 ^ m + 2 ^ (k + m))) := by
  have hX : (rng B (s * 2 ^ m) (s * 2 ^ m + 2 ^ (k + m))).length = 2 ^ k * 2 ^ m := by
    rw [rng_length B h (Nat.le_add_right _ _), Nat.add_sub_cancel_left, Nat.pow_add]
  -- the roots are the block hashes of that window of `B`
  rw [← TileAuth.mth_items_eq node emptyHash m (rng B _ _),
    TileAuth.items_eq_map node emptyHash (Nat.pow_pos (by decide)) hX]
  congr 1
  apply List.map_congr_left
  intro j hj
  have hj' : s * 2 ^ m + (j + 1) * 2 ^ m ≤ s * 2 ^ m + 2 ^ (k + m) := by
    rw [Nat.pow_add]
    exact Nat.add_le_add_left (Nat.mul_le_mul_right _ (List.mem_range.1 hj)) _
  rw [rng_rng B hj', ← Nat.add_mul, ← Nat.add_mul, Nat.add_assoc]

theorem pow_split (h : Nat) : 2 ^ h = 256 ^ (h / 8) * 2 ^ (h % 8) := by
  rw [TileAuth.pow256, ← Nat.pow_add]
  congr 1
  omega

/-! ### hash tiles -/

theorem tileOf_eq_roots (B : List Hash) (l n w : Nat) :
    tileOf node emptyHash B l n w = roots node emptyHash B (256 ^ l) (256 * n) w := rfl

theorem tileOf_length (B : List Hash) (l n w : Nat) : (tileOf node emptyHash B l n w).length = w := by
  simp [tileOf]

def HashOK (B : List Hash) (hashT : Nat → Nat → Nat → Option (List Hash)) : Prop :=
  ∀ l n w hs, hashT l n w = some hs → hs = tileOf node emptyHash B l n w ∧ (256 * n + w) * 256 ^ l ≤ B.length

theorem fromBackend_sound (B : List Hash) (hashT : Nat → Nat → Nat → Option (List Hash))
    (hok : HashOK node emptyHash B hashT) (rs h a : Nat) (hal : 2 ^ h ∣ a) (x : Hash)
    (hx : fromBackend node emptyHash hashT rs h a = some x) :
    x = mth node emptyHash (rng B a (a + 2 ^ h)) ∧ a + 2 ^ h ≤ B.length := by
  revert hx
  fun_cases fromBackend node emptyHash hashT rs h a
  all_goals intro hx; cases hx
  rename_i l k j n off w tile ht hoff
  obtain ⟨rfl, hbound⟩ := hok _ _ _ _ ht
  rw [tileOf_length] at hoff
  -- `a` is the first leaf of subtree number `j = 256 * n + off` of `256 ^ l` leaves; `2 ^ h` leaves are `2 ^ k` such subtrees
  have h2h : 2 ^ h = 2 ^ k * 256 ^ l := by rw [pow_split h, Nat.mul_comm]
  have haj : a = j * 256 ^ l :=
    (Nat.div_mul_cancel (Nat.dvd_trans (h2h ▸ Nat.dvd_mul_left _ _) hal)).symm
  have hjs : 256 * n + off = j := Nat.div_add_mod j 256
  have hend : a + 2 ^ h = (j + 2 ^ k) * 256 ^ l := by rw [haj, h2h, Nat.add_mul]
  have hbnd : a + 2 ^ h ≤ B.length :=
    hend ▸ Nat.le_trans (Nat.mul_le_mul_right _ (by omega)) hbound
  rw [tileOf_eq_roots, roots_rng node emptyHash B _ (256 * n) hoff, hjs]
  have := mth_roots_pow2 node emptyHash B (8 * l) k j
  rw [show k + 8 * l = h by omega, ← TileAuth.pow256, ← haj] at this
  exact ⟨this hbnd, hbnd⟩
theorem hyb_backend (hashT : Nat → Nat → Nat → Option (List Hash)) (rs : Nat) (ov : List Hash) (h a : Nat)
    (h1 : a + 2 ^ h ≤ rs) : hyb node emptyHash hashT rs ov h a = fromBackend node emptyHash hashT rs h a := by
  cases h <;> (unfold hyb; rw [if_pos h1])

theorem hyb_overlay (hashT : Nat → Nat → Nat → Option (List Hash)) (rs : Nat) (ov : List Hash) (h a : Nat)
    (h1 : ¬ a + 2 ^ h ≤ rs) (h2 : rs ≤ a) :
    hyb node emptyHash hashT rs ov h a =
      if a - rs + 2 ^ h ≤ ov.length then some (mth node emptyHash (rng ov (a - rs) (a - rs + 2 ^ h))) else none := by
  cases h <;> (unfold hyb; rw [if_neg h1, if_pos h2])

theorem hyb_zero_straddle (hashT : Nat → Nat → Nat → Option (List Hash)) (rs : Nat) (ov : List Hash) (a : Nat)
    (h1 : ¬ a + 2 ^ 0 ≤ rs) (h2 : ¬ rs ≤ a) : hyb node emptyHash hashT rs ov 0 a = none := by
  unfold hyb; rw [if_neg h1, if_neg h2]

theorem hyb_succ_straddle (hashT : Nat → Nat → Nat → Option (List Hash)) (rs : Nat) (ov : List Hash) (h a : Nat)
    (h1 : ¬ a + 2 ^ (h + 1) ≤ rs) (h2 : ¬ rs ≤ a) :
    hyb node emptyHash hashT rs ov (h + 1) a =
      match hyb node emptyHash hashT rs ov h a, hyb node emptyHash hashT rs ov h (a + 2 ^ h) with
      | some x, some y => some (node x y)
      | _, _ => none := by
  rw [hyb, if_neg h1, if_neg h2]
  cases hyb node emptyHash hashT rs ov h a <;> cases hyb node emptyHash hashT rs ov h (a + 2 ^ h) <;> rfl

theorem hyb_sound (B : List Hash) (hashT : Nat → Nat → Nat → Option (List Hash))
    (hok : HashOK node emptyHash B hashT) (rs : Nat) (ov : List Hash)
    (hov : ov = rng B rs (rs + ov.length)) (hovb : rs + ov.length ≤ B.length) :
    ∀ (h a : Nat) (x : Hash), 2 ^ h ∣ a → hyb node emptyHash hashT rs ov h a = some x →
      x = mth node emptyHash (rng B a (a + 2 ^ h)) ∧ a + 2 ^ h ≤ B.length := by
  intro h a
  fun_induction hyb node emptyHash hashT rs ov h a
  all_goals intro x hal hx
  · -- below `rs`: read from the backend's tile
    exact fromBackend_sound node emptyHash B hashT hok rs _ _ hal x hx
  · -- above `rs`: computed from the overlay
    cases hx
    refine ⟨?_, by omega⟩
    rw [hov, rng_rng B (by omega)]
    congr 2 <;> omega
  · cases hx
  · cases hx
  · -- a subtree that straddles `rs` is the node over its two halves
    rename_i a _ h x1 x2 e2 e1 _ ih1 ih2
    cases hx
    have hd : 2 ^ h ∣ a := Nat.dvd_trans (by rw [Nat.pow_succ]; exact Nat.dvd_mul_right _ _) hal
    obtain ⟨r1, _⟩ := ih1 x1 hd e1
    obtain ⟨r2, b2⟩ := ih2 x2 (Nat.dvd_add hd (Nat.dvd_refl _)) e2
    have hb : a + 2 ^ (h + 1) ≤ B.length := by omega
    refine ⟨?_, hb⟩
    rw [r1, r2, mth_rng_pow2 node emptyHash B hb]
    congr 3
    omega
  · cases hx
theorem allSome_eq_some {α : Type} {xs : List (Option α)} {ys : List α} :
    allSome xs = some ys ↔ xs = ys.map some := by
  induction xs generalizing ys with
  | nil => cases ys <;> simp [allSome]
  | cons x rest ih =>
    cases x with
    | none => cases ys <;> simp [allSome]
    | some x =>
      simp only [allSome]
      cases hr : allSome rest with
      | none =>
        cases ys with
        | nil => simp
        | cons y ys => simp only [List.map_cons, List.cons.injEq, ← ih, hr]; simp
      | some zs =>
        rw [ih.1 hr]
        cases ys with
        | nil => simp
        | cons y ys =>
          simp only [Option.some.injEq, List.map_cons, List.cons.injEq]
          exact and_congr_right fun _ => (List.map_inj_right (fun _ _ => Option.some.inj)).symm

theorem tileData_sound (B : List Hash) (hashT : Nat → Nat → Nat → Option (List Hash))
    (hok : HashOK node emptyHash B hashT) (rs : Nat) (ov : List Hash)
    (hov : ov = rng B rs (rs + ov.length)) (hovb : rs + ov.length ≤ B.length)
    (l n w : Nat) (hs : List Hash) (h : tileData node emptyHash hashT rs ov l n w = some hs) :
    hs = tileOf node emptyHash B l n w ∧ (w ≠ 0 → (256 * n + w) * 256 ^ l ≤ B.length) := by
  have hmap := allSome_eq_some.1 h
  have hlen : hs.length = w := by simpa using (congrArg List.length hmap).symm
  -- entry `i` of the tile is the log's hash of the `i`-th subtree of `256 ^ l` leaves, which lies inside the log
  have hpt : ∀ i (hi : i < w), hs[i]'(hlen ▸ hi) =
        mth node emptyHash (rng B ((256 * n + i) * 256 ^ l) ((256 * n + i + 1) * 256 ^ l)) ∧
      (256 * n + i + 1) * 256 ^ l ≤ B.length := by
    intro i hi
    have hy : hyb node emptyHash hashT rs ov (8 * l) ((256 * n + i) * 256 ^ l) = some (hs[i]'(hlen ▸ hi)) := by
      have := congrArg (·[i]?) hmap
      simpa [hi, hlen] using this
    have hend : (256 * n + i) * 256 ^ l + 2 ^ (8 * l) = (256 * n + i + 1) * 256 ^ l := by
      rw [← TileAuth.pow256, Nat.add_mul (256 * n + i) 1, Nat.one_mul]
    rw [← hend]
    exact hyb_sound node emptyHash B hashT hok rs ov hov hovb (8 * l) _ _ (TileAuth.pow256 l ▸ Nat.dvd_mul_left _ _) hy
  refine ⟨List.ext_getElem (by rw [hlen, tileOf_length]) fun i h1 _ => ?_, fun hw => ?_⟩
  · rw [(hpt i (hlen ▸ h1)).1]
    simp [tileOf]
  · have := (hpt (w - 1) (by omega)).2
    rwa [show 256 * n + (w - 1) + 1 = 256 * n + w by omega] at this

theorem tileOf_zero (leaf : Entry → Hash) (E : List Entry) (n w : Nat) (h : 256 * n + w ≤ E.length) :
    tileOf node emptyHash (E.map leaf) 0 n w = (bundleOf E n w).map leaf := by
  apply List.ext_getElem
  · simp [tileOf, bundleOf, List.length_take, List.length_drop]; omega
  · intro i h1 h2
    simp only [tileOf, List.length_map, List.length_range] at h1
    simp only [tileOf, List.getElem_map, List.getElem_range, Nat.pow_zero, Nat.mul_one, bundleOf,
      List.getElem_take, List.getElem_drop]
    rw [rng_singleton (E.map leaf) (by simp; omega), mth_singleton]
    simp

theorem lvl_zero (N : Nat) : lvl N 0 = N := by simp [lvl]

theorem lvl_succ' (N l : Nat) : lvl N (l + 1) = lvl (N / 256) l := by
  unfold lvl
  rw [Nat.pow_succ, Nat.mul_comm, Nat.div_div_eq_div_mul]

theorem isTile_floor {N l n w : Nat} (h : IsTile N l n w) :
    IsTile (N - N % 256) l n w ∨ (l = 0 ∧ n = N / 256 ∧ w = N % 256 ∧ N % 256 ≠ 0) := by
  unfold IsTile at *
  cases l with
  | zero => rw [lvl_zero] at *; omega
  | succ l =>
    rw [lvl_succ', show (N - N % 256) / 256 = N / 256 by omega, ← lvl_succ']
    exact Or.inl h

/-! ### `tlog.NewTiles` -/

theorem mem_tilesAtLevel {level o m : Nat} {t : Nat × Nat × Nat} :
    t ∈ tilesAtLevel level o m ↔ t.1 = level ∧
      ((t.2.2 = 256 ∧ o / 256 ≤ t.2.1 ∧ t.2.1 < m / 256) ∨ (t.2.2 = m % 256 ∧ m % 256 > 0 ∧ t.2.1 = m / 256)) := by
  obtain ⟨l, n, w⟩ := t
  unfold tilesAtLevel
  simp only [List.mem_append, List.mem_map, List.mem_range, Prod.mk.injEq]
  constructor
  · rintro (⟨k, hk, rfl, rfl, rfl⟩ | h)
    · exact ⟨rfl, Or.inl (by omega)⟩
    · split at h
      · simp only [List.mem_singleton, Prod.mk.injEq] at h
        exact ⟨h.1, Or.inr (by omega)⟩
      · cases h
  · rintro ⟨rfl, ⟨rfl, h1, h2⟩ | ⟨rfl, h1, rfl⟩⟩
    · exact Or.inl ⟨n - o / 256, by omega, rfl, by omega, rfl⟩
    · right; simp [h1]

theorem mem_newTilesFrom {t : Nat × Nat × Nat} : ∀ {fuel level o m : Nat},
    t ∈ newTilesFrom fuel level o m ↔
      ∃ d, d < fuel ∧ lvl m d ≠ 0 ∧ lvl o d ≠ lvl m d ∧ t ∈ tilesAtLevel (level + d) (lvl o d) (lvl m d) := by
  intro fuel
  induction fuel with
  | zero => intro level o m; simp [newTilesFrom]
  | succ fuel ih =>
    intro level o m
    unfold newTilesFrom
    by_cases hm : m = 0
    · rw [if_pos hm, hm]
      simp [lvl]
    · rw [if_neg hm, List.mem_append, ih]
      constructor
      · rintro (h | ⟨d, hd, h1, h2, h3⟩)
        · split at h
          · cases h
          · exact ⟨0, by omega, by rwa [lvl_zero], by rwa [lvl_zero, lvl_zero], by rwa [lvl_zero, lvl_zero]⟩
        · rw [← lvl_succ', ← lvl_succ', Nat.add_right_comm level 1 d] at *
          exact ⟨d + 1, by omega, h1, h2, h3⟩
      · rintro ⟨d, hd, h1, h2, h3⟩
        cases d with
        | zero =>
          rw [lvl_zero, lvl_zero] at h2 h3
          exact Or.inl (by rwa [if_neg h2])
        | succ d =>
          rw [lvl_succ', lvl_succ'] at *
          exact Or.inr ⟨d, by omega, h1, h2, by rwa [Nat.add_right_comm level 1 d]⟩

theorem mem_newTiles {o m : Nat} {t : Nat × Nat × Nat} :
    t ∈ newTiles o m ↔ ∃ d, lvl m d ≠ 0 ∧ lvl o d ≠ lvl m d ∧ t ∈ tilesAtLevel d (lvl o d) (lvl m d) := by
  unfold newTiles
  rw [mem_newTilesFrom]
  simp only [Nat.zero_add]
  refine exists_congr fun d => and_iff_right_of_imp fun h => ?_
  -- the fuel suffices: `d < 256 ^ d ≤ m`
  have h1 : 256 ^ d ≤ m := Nat.le_of_not_lt fun hlt => h.1 (Nat.div_eq_of_lt hlt)
  have : d < 256 ^ d := Nat.lt_pow_self (by decide)
  omega

theorem newTiles_pkg {ts e : Nat} (hts : ts % 256 = 0) (h1 : ts < e) (h2 : e ≤ ts + 256)
    {t : Nat × Nat × Nat} (h : t ∈ newTiles ts e) :
    t.2.2 ≠ 0 ∧ (t.1 = 0 → t.2.1 = ts / 256 ∧ t.2.2 = e - ts) := by
  obtain ⟨d, _, _, ht⟩ := mem_newTiles.1 h
  obtain ⟨hd, hw⟩ := mem_tilesAtLevel.1 ht
  refine ⟨by omega, fun h0 => ?_⟩
  obtain rfl : d = 0 := hd.symm.trans h0
  rw [lvl_zero, lvl_zero] at hw
  omega

theorem isTile_or_new {o m l n w : Nat} (h : IsTile m l n w) : IsTile o l n w ∨ (l, n, w) ∈ newTiles o m := by
  unfold IsTile at h ⊢
  by_cases hl : lvl o l = lvl m l
  · left; rw [hl]; exact h
  by_cases hn : 256 * n + w ≤ lvl o l ∧ w = 256
  · left; omega
  · right
    refine mem_newTiles.2 ⟨l, by omega, hl, mem_tilesAtLevel.2 ⟨rfl, ?_⟩⟩
    dsimp only
    by_cases hw : w = 256
    · left; omega
    · right; omega

theorem newTiles_cover {ts l n w : Nat} (hts : ts % 256 = 0) (h : IsTile (ts + 256) l n w) :
    IsTile ts l n w ∨ (l, n, w) ∈ newTiles ts (ts + 256) :=
  isTile_or_new h

theorem newTiles_partial {ts e : Nat} (hts : ts % 256 = 0) (h1 : ts < e) (h2 : e < ts + 256) :
    (0, ts / 256, e - ts) ∈ newTiles ts e := by
  refine mem_newTiles.2 ⟨0, ?_, ?_, mem_tilesAtLevel.2 ⟨rfl, Or.inr ?_⟩⟩
  · rw [lvl_zero]; omega
  · rw [lvl_zero, lvl_zero]; omega
  · simp only [lvl_zero]; omega

end Mirror
