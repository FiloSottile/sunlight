import Proofs.SeqInv
/-! Second invariant bundle: publication bookkeeping of a round, truth of the deduplication cache and
of every acknowledgement (I6/I7), pool bound (I9), only staging bundles are discarded (I4). -/
namespace Seq

def HasLeaf (P : List Ck) (key idx ts : Nat) : Prop :=
  ∃ c ∈ P, ∃ l, c.leaves[idx]? = some l ∧ l.key = key ∧ l.ts = ts

theorem HasLeaf.mono {P P' : List Ck} (hs : ∀ c, c ∈ P → c ∈ P') {k i t : Nat} (h : HasLeaf P k i t) : HasLeaf P' k i t := by
  obtain ⟨c, hc, l, h1, h2, h3⟩ := h
  exact ⟨c, hs c hc, l, h1, h2, h3⟩

def RoundPc.isPub : RoundPc → Bool
  | .discard | .done .ok => true
  | _ => false

def RoundOK2 (P : List Ck) (rd : Round) : Prop :=
  (rd.published = true → rd.new ∈ P) ∧
  (rd.published = rd.pc.isPub)

def RInv (P : List Ck) (x : Inst) : Prop := ∀ rd, x.phase = .round rd → RoundOK2 P rd

/-- I9. `addLeafToPool` overwrites the victim's slot with the newcomer; the model learns which slot only from
    the victim's report, so between `submittedEvict` and `nackEvicted` the pool holds the newcomer in addition:
    one over the bound exactly while `evictPending`. No round starts in between (`launchRound` tests the flag),
    hence the plain bound on `slots`. -/
def PInv (n : Nat) (x : Inst) : Prop :=
  n > 0 → (x.pool.length ≤ n + (if x.evictPending then 1 else 0)) ∧
    (x.evictPending = true → x.pool.length = n + 1) ∧
    (∀ rd, x.phase = .round rd → rd.slots.length ≤ n)

def CInv (P : List Ck) (x : Inst) : Prop := ∀ e ∈ x.cache, HasLeaf P e.1 e.2.1 e.2.2

structure Inv2 (s : Sys) : Prop where
  round : ∀ i, RInv s.pubHist (s.insts i)
  pool : ∀ i, PInv s.poolSize (s.insts i)
  cache : ∀ i, CInv s.pubHist (s.insts i)
  acks : ∀ a ∈ s.acks, HasLeaf s.pubHist a.key a.idx a.ts
  disc : ∀ k ∈ s.discarded, ∃ t, k = .staging t

theorem RInv.mono {P P' : List Ck} (hs : ∀ c, c ∈ P → c ∈ P') {x : Inst} (h : RInv P x) : RInv P' x := by
  intro rd hrd
  obtain ⟨b, c⟩ := h rd hrd
  exact ⟨fun hp => hs _ (b hp), c⟩

theorem CInv.mono {P P' : List Ck} (hs : ∀ c, c ∈ P → c ∈ P') {x : Inst} (h : CInv P x) : CInv P' x :=
  fun e he => (h e he).mono hs

theorem leavesOf_getElem? (slots : List Slot) (t k : Nat) :
    (leavesOf slots t)[k]? = (slots[k]?).map fun sl => ⟨sl.eid, sl.key, t⟩ := by
  simp [leavesOf]

theorem round_leaf {rd : Round} (hs : rd.new.leaves = rd.old.leaves ++ leavesOf rd.slots rd.new.time)
    {k : Nat} {sl : Slot} (hk : rd.slots[k]? = some sl) :
    rd.new.leaves[rd.old.leaves.length + k]? = some ⟨sl.eid, sl.key, rd.new.time⟩ := by
  rw [hs, List.getElem?_append_right (by omega)]
  simp [leavesOf_getElem?, hk]

theorem slotIndex_spec {slots : List Slot} {key k : Nat} (h : slotIndex slots key = some k) :
    ∃ sl, slots[k]? = some sl ∧ sl.key = key := by
  unfold slotIndex at h
  have := List.findIdx?_eq_some_iff_getElem.1 h
  obtain ⟨hk, hp, _⟩ := this
  exact ⟨slots[k], by simp [hk], by simpa using hp⟩

theorem cacheLookup_mem {c : List (Nat × Nat × Nat)} {key idx ts : Nat}
    (h : cacheLookup c key = some (idx, ts)) : (key, idx, ts) ∈ c := by
  unfold cacheLookup at h
  split at h
  · rename_i k v hf
    injection h with h; subst h
    have hm := List.mem_of_find?_eq_some hf
    have hp := List.find?_some hf
    simp at hp; subst hp; exact hm
  · cases h

theorem zipIdx_drop_mem {α : Type} {l : List α} {n : Nat} {x : α} {k : Nat}
    (h : (x, k) ∈ l.zipIdx.drop n) : l[k]? = some x :=
  List.mem_zipIdx_iff_getElem?.1 (List.mem_of_mem_drop h)

section
attribute [local simp] setPhase Sys.setInst Sys.pushLock Sys.stored upd

theorem Step.cache_cases {s s' : Sys} {e : Ev} (h : Step s e s') (i : Nat) :
    (s'.insts i).cache = (s.insts i).cache ∨ (s'.insts i).cache = [] ∨
    ∃ rd, (s.insts i).phase = .round rd ∧ rd.pc = .done .ok ∧
      (s'.insts i).cache = (s.insts i).cache ++
        (rd.new.leaves.zipIdx.drop rd.old.leaves.length).map fun (l, k) => (l.key, k, l.ts) := by
  by_cases he : e.inst = some i
  · cases h <;> simp only [Ev.inst, Option.some.injEq, reduceCtorEq] at he <;> subst he <;> simp_all
  · exact .inl (by rw [h.others he])

theorem Step.rinv {s s' : Sys} {e : Ev} {i : Nat} (hS : Step s e s') (he : e.inst = some i) (hinv : Inv2 s) :
    RInv s'.pubHist (s'.insts i) := by
  have hi := hinv.round i
  cases hS <;> simp only [Ev.inst, Option.some.injEq, reduceCtorEq] at he <;> subst he <;>
    simp_all [RInv, RoundOK2, RoundPc.isPub]
  -- left over: the round was not `published` before; its pc was `ckpt` or `tiles`
  case uploadCkptFail hready _ => rcases hready with h | ⟨_, h, _⟩ <;> simp [h]

theorem Step.pinv {s s' : Sys} {e : Ev} {i : Nat} (hS : Step s e s') (he : e.inst = some i) (hinv : Inv2 s) :
    PInv s'.poolSize (s'.insts i) := by
  have hi := hinv.pool i
  cases hS <;> simp only [Ev.inst, Option.some.injEq, reduceCtorEq] at he <;> subst he <;>
    simp_all [PInv]
  case submitted hfull => intro h; have := hfull h; omega
  case submittedEvict => omega

end

theorem inv2_step (s s' : Sys) (e : Ev) (hinv : Inv2 s) (h : step s e = some s') : Inv2 s' := by
  have hS := step_sound h
  have hsub := hS.pubHist_sub
  -- cache rows and a round's acks are read off `rd.new` of a round at `done .ok`, which `RInv` puts in `pubHist`
  have hpubl : ∀ j rd, (s.insts j).phase = .round rd → rd.pc = .done .ok → rd.new ∈ s'.pubHist := by
    intro j rd hph hpc
    obtain ⟨hpub, hisp⟩ := hinv.round j rd hph
    exact hsub _ (hpub (by rw [hisp, hpc]; rfl))
  refine ⟨fun j => ?_, fun j => ?_, fun j x hx => ?_, fun a ha => ?_, fun k hk => ?_⟩
  · by_cases hj : e.inst = some j
    · exact hS.rinv hj hinv
    · rw [hS.others hj]; exact (hinv.round j).mono hsub
  · by_cases hj : e.inst = some j
    · exact hS.pinv hj hinv
    · rw [hS.others hj, hS.poolSize]; exact hinv.pool j
  · rcases hS.cache_cases j with hc | hc | ⟨rd, hph, hpc, hc⟩ <;> rw [hc] at hx
    · exact (hinv.cache j x hx).mono hsub
    · cases hx
    · rcases List.mem_append.1 hx with hx | hx
      · exact (hinv.cache j x hx).mono hsub
      · obtain ⟨⟨l, k⟩, hm, rfl⟩ := List.mem_map.1 hx
        exact ⟨rd.new, hpubl j rd hph hpc, l, zipIdx_drop_mem hm, rfl, rfl⟩
  · cases hS.acks_cases with
    | same hc => exact (hinv.acks a (hc ▸ ha)).mono hsub
    | ack hc _ _ hsrc =>
      rw [hc] at ha
      rcases List.mem_cons.1 ha with rfl | ha
      · rcases hsrc with hm | ⟨rd, l, hph, hpc, _, hl, hk, ht⟩
        · exact (hinv.cache _ _ (cacheLookup_mem hm)).mono hsub
        · exact ⟨rd.new, hpubl _ rd hph hpc, l, hl, hk, ht⟩
      · exact (hinv.acks a ha).mono hsub
  · rcases hS.discarded_cases with hc | ⟨t, hc⟩ <;> rw [hc] at hk
    · exact hinv.disc k hk
    · rcases List.mem_cons.1 hk with rfl | hk
      · exact ⟨t, rfl⟩
      · exact hinv.disc k hk

theorem rinv_tamper (s s' : Sys) {k o : _} (hinv : Inv2 s) (j : Nat)
    (h : step s (.tamper k o) = some s') : RInv s'.pubHist (s'.insts j) :=
  (inv2_step s s' _ hinv h).round j

theorem pinv_tamper (s s' : Sys) {k o : _} (hinv : Inv2 s) (j : Nat)
    (h : step s (.tamper k o) = some s') : PInv s'.poolSize (s'.insts j) :=
  (inv2_step s s' _ hinv h).pool j

theorem inv2_init (p : Nat) : Inv2 (init p) := by
  refine ⟨?_, ?_, ?_, ?_, ?_⟩
  · intro i rd h; simp [init] at h
  · intro i _; simp [init]
  · intro i x hx; simp [init] at hx
  · intro a ha; simp [init] at ha
  · intro k hk; simp [init] at hk

theorem inv2_reachable {s : Sys} (h : Reachable s) : Inv2 s :=
  h.induction inv2_init fun s e s' _ hi hst => inv2_step s s' e hi hst

end Seq
