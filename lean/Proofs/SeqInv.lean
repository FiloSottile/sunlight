import Proofs.SeqStep
/-! Protocol invariants I1 (lock history is a chain), I2 (published ⊆ committed) and I8 (a running
instance sits on a committed tree) for every event sequence the model accepts. -/
namespace Seq

def Ext (newer older : Ck) : Prop := older.leaves <+: newer.leaves ∧ older.time < newer.time

def Chain : List Ck → Prop
  | [] => True
  | [_] => True
  | a :: b :: rest => Ext a b ∧ Chain (b :: rest)

/-- What a round knows about its trees, by program counter. At `stage` and `cas` it is what the clock read has
    computed: `new` extends the held tree with a later time, the premise under which a compare-and-swap extends
    the chain. From `tiles` to `ckpt` the swap has made `new` the held tree, so the checkpoint uploaded there
    is a committed one. -/
def RoundOK (H : List Ck) (x : Inst) (rd : Round) : Prop :=
  x.tree ∈ H ∧
  match rd.pc with
  | .stage | .cas => rd.old = x.tree ∧ (∃ add, rd.new.leaves = x.tree.leaves ++ add) ∧ x.tree.time < rd.new.time
  | .tiles _ _ | .ckpt => rd.new = x.tree
  | _ => True

/-- the `c` a load carries is the lock value it fetched: the head of the history when `lockFetchLoad` reads it -/
def LoadOK (H : List Ck) : LoadPc → Prop
  | .clock1 c | .ckptFetch c | .clock2 c _ | .legacy c | .stagingFetch c | .apply c _ _ | .edge c _ => c ∈ H
  | _ => True

def InstOK (H : List Ck) (x : Inst) : Prop :=
  match x.phase with
  | .creating (.ckptUpload c) => c ∈ H
  | .loading pc => LoadOK H pc
  | .idle | .stopped => x.tree ∈ H
  | .round rd => RoundOK H x rd
  | _ => True

structure Inv (s : Sys) : Prop where
  head : s.lockHist.head? = s.lock
  chain : Chain s.lockHist
  pub : ∀ c ∈ s.pubHist, c ∈ s.lockHist
  inst : ∀ i, InstOK s.lockHist (s.insts i)

theorem LoadOK.mono {H H' : List Ck} (hs : ∀ c, c ∈ H → c ∈ H') {pc : LoadPc} (h : LoadOK H pc) : LoadOK H' pc := by
  cases pc <;> simp_all [LoadOK]

theorem InstOK.mono {H H' : List Ck} (hs : ∀ c, c ∈ H → c ∈ H') {x : Inst} (h : InstOK H x) : InstOK H' x := by
  unfold InstOK at *
  split <;> simp_all [RoundOK]
  · exact LoadOK.mono hs h

theorem head_mem {H : List Ck} {c : Ck} (h : H.head? = some c) : c ∈ H :=
  List.mem_of_mem_head? (Option.mem_def.2 h)

theorem Step.lockHist_sub {s s' : Sys} {e : Ev} (h : Step s e s') : ∀ c, c ∈ s.lockHist → c ∈ s'.lockHist := by
  intro c hc
  cases h.lock_cases with
  | same _ h1 => rw [h1]; exact hc
  | commit _ _ h1 => rw [h1]; exact List.mem_cons_of_mem _ hc

theorem Step.pubHist_sub {s s' : Sys} {e : Ev} (h : Step s e s') : ∀ c, c ∈ s.pubHist → c ∈ s'.pubHist := by
  intro c hc
  cases h.pub_cases with
  | same h1 => rw [h1]; exact hc
  | publish h1 => rw [h1]; exact List.mem_cons_of_mem _ hc

attribute [local simp] setPhase Sys.setInst Sys.pushLock Sys.stored upd in
theorem Step.instOK {s s' : Sys} {e : Ev} {i : Nat} (hS : Step s e s') (he : e.inst = some i) (hinv : Inv s) :
    InstOK s'.lockHist (s'.insts i) := by
  have hi := hinv.inst i
  have hh := hinv.head
  -- Every rule writes the acting instance's successor out, so `simp` reads `InstOK` off it and closes the goal
  -- with the rule's guards and `hi`. `lockFetchLoad` alone needs the shared state: the lock value the load
  -- starts to carry is in the history because it is its head.
  cases hS <;> cases he <;>
    simp_all [InstOK, RoundOK, LoadOK]
  case lockFetchLoad => exact head_mem hh

def init (poolSize : Nat) : Sys := { poolSize := poolSize }

theorem inv_init (p : Nat) : Inv (init p) := by
  refine ⟨rfl, trivial, ?_, ?_⟩
  · intro c hc; simp [init] at hc
  · intro i; simp [init, InstOK]

theorem inv_step (s s' : Sys) (e : Ev) (hinv : Inv s) (h : step s e = some s') : Inv s' := by
  have hS := step_sound h
  have hinst : ∀ j, InstOK s'.lockHist (s'.insts j) := fun j =>
    if hj : e.inst = some j then hS.instOK hj hinv
    else by rw [hS.others hj]; exact (hinv.inst j).mono hS.lockHist_sub
  refine ⟨?_, ?_, ?_, hinst⟩
  · cases hS.lock_cases with
    | same h1 h2 => rw [h1, h2]; exact hinv.head
    | commit _ h1 h2 => rw [h1, h2]; rfl
  · -- a new lock value is the first one, or extends the tree its round holds: the old lock value
    cases hS.lock_cases with
    | same _ h2 => rw [h2]; exact hinv.chain
    | @commit i c _ _ h2 _ hwho =>
      rw [h2]
      have hh := hinv.head
      rcases hwho with ⟨_, hl⟩ | ⟨rd, hph, hpc, rfl, hl⟩ <;> rw [hl] at hh
      · rw [List.head?_eq_none_iff.1 hh]; trivial
      · have hi := hinv.inst i
        simp only [InstOK, RoundOK, hph, hpc] at hi
        obtain ⟨_, _, ⟨add, hadd⟩, ht⟩ := hi
        cases hH : s.lockHist with
        | nil => rw [hH] at hh; cases hh
        | cons a t =>
          rw [hH] at hh; simp only [List.head?_cons, Option.some.injEq] at hh
          exact ⟨⟨hh ▸ hadd ▸ List.prefix_append _ _, hh ▸ ht⟩, hH ▸ hinv.chain⟩
  · -- what is published is the tree its uploader sits on
    intro c hc
    cases hS.pub_cases with
    | same h1 => exact hS.lockHist_sub c (hinv.pub c (h1 ▸ hc))
    | @publish i c' h1 _ hwho =>
      rw [h1] at hc
      rcases List.mem_cons.1 hc with rfl | hc
      · have hi := hinv.inst i
        refine hS.lockHist_sub c ?_
        rcases hwho with hph | ⟨rd, hph, rfl, hpc | ⟨_, hpc, _⟩⟩
        · simpa only [InstOK, hph] using hi
        all_goals (simp only [InstOK, RoundOK, hph, hpc] at hi; exact hi.2 ▸ hi.1)
      · exact hS.lockHist_sub c (hinv.pub c hc)

theorem run_cons {s s' : Sys} {e : Ev} {es : List Ev} :
    run s (e :: es) = some s' ↔ ∃ s1, step s e = some s1 ∧ run s1 es = some s' := by
  simp only [run]
  split <;> simp_all

theorem run_append (s : Sys) (a b : List Ev) :
    run s (a ++ b) = (run s a).bind fun s1 => run s1 b := by
  induction a generalizing s with
  | nil => simp [run]
  | cons e a ih =>
    simp only [List.cons_append, run]
    split
    · exact ih _
    · rfl

theorem run_append_some {s s1 s2 : Sys} {a b : List Ev} (h1 : run s a = some s1) (h2 : run s1 b = some s2) :
    run s (a ++ b) = some s2 := by
  rw [run_append, h1]; exact h2

theorem run_single {s s1 : Sys} {e : Ev} (h1 : step s e = some s1) : run s [e] = some s1 := by
  simp [run, h1]

theorem run_tampered (s s' : Sys) (es : List Ev) (h : run s es = some s') (ht : s'.tampered = false) :
    s.tampered = false := by
  induction es generalizing s with
  | nil => cases h; exact ht
  | cons e es ih =>
    obtain ⟨s1, hs1, h⟩ := run_cons.1 h
    exact ((step_sound hs1).tampered (ih s1 h)).1

theorem run_insts_other {s s' : Sys} {es : List Ev} (h : run s es = some s') (j : Nat)
    (hj : ∀ e ∈ es, e.inst ≠ some j) : s'.insts j = s.insts j := by
  induction es generalizing s with
  | nil => cases h; rfl
  | cons e es ih =>
    obtain ⟨s1, hs1, h⟩ := run_cons.1 h
    rw [ih h (fun e' he' => hj e' (List.mem_cons_of_mem _ he')), (step_sound hs1).others (hj e List.mem_cons_self)]

def Reachable (s : Sys) : Prop := ∃ p es, run (init p) es = some s

theorem Reachable.run {s s' : Sys} (r : Reachable s) {es : List Ev} (h : run s es = some s') : Reachable s' := by
  obtain ⟨p, es0, h0⟩ := r
  exact ⟨p, es0 ++ es, run_append_some h0 h⟩

theorem Reachable.step {s s' : Sys} (r : Reachable s) {e : Ev} (h : step s e = some s') : Reachable s' :=
  r.run (run_single h)

theorem Reachable.induction {P : Sys → Prop} (h0 : ∀ p, P (init p))
    (hs : ∀ s e s', Reachable s → P s → Seq.step s e = some s' → P s') {s : Sys} (r : Reachable s) : P s := by
  obtain ⟨p, es, h⟩ := r
  suffices ∀ (es : List Ev) (s0 : Sys), Reachable s0 → P s0 → Seq.run s0 es = some s → P s from
    this es _ ⟨p, [], rfl⟩ (h0 p) h
  intro es
  induction es with
  | nil => intro s0 _ hp h; cases h; exact hp
  | cons e es ih =>
    intro s0 r0 hp h
    obtain ⟨s1, hs1, h⟩ := run_cons.1 h
    exact ih s1 (r0.step hs1) (hs _ _ _ r0 hp hs1) h

theorem inv_reachable {s : Sys} (h : Reachable s) : Inv s :=
  h.induction inv_init fun s e s' _ hi hst => inv_step s s' e hi hst

theorem pairwise_total {α : Type} {R : α → α → Prop} : ∀ {l : List α}, l.Pairwise R →
    ∀ a ∈ l, ∀ b ∈ l, a = b ∨ R a b ∨ R b a
  | [], _, a, ha, _, _ => by cases ha
  | x :: xs, h, a, ha, b, hb => by
    obtain ⟨hx, hxs⟩ := List.pairwise_cons.1 h
    cases ha with
    | head =>
      cases hb with
      | head => exact Or.inl rfl
      | tail _ hb' => exact Or.inr (Or.inl (hx b hb'))
    | tail _ ha' =>
      cases hb with
      | head => exact Or.inr (Or.inr (hx a ha'))
      | tail _ hb' => exact pairwise_total hxs a ha' b hb'

theorem prefix_getElem? {α : Type} {l₁ l₂ : List α} (h : l₁ <+: l₂) {i : Nat} (hi : i < l₁.length) :
    l₂[i]? = l₁[i]? := by
  obtain ⟨t, rfl⟩ := h
  rw [List.getElem?_append_left hi]

theorem chain_pairwise : ∀ (H : List Ck), Chain H → H.Pairwise (fun newer older =>
    older.leaves <+: newer.leaves ∧ older.time < newer.time)
  | [], _ => List.Pairwise.nil
  | [a], _ => List.pairwise_singleton _ a
  | a :: b :: rest, h => by
    obtain ⟨hab, hrest⟩ := h
    have ih := chain_pairwise (b :: rest) hrest
    refine List.Pairwise.cons ?_ ih
    intro c hc
    cases hc with
    | head => exact hab
    | tail _ hc' =>
      have hbc := (List.pairwise_cons.1 ih).1 c hc'
      exact ⟨hbc.1.trans hab.1, Nat.lt_trans hbc.2 hab.2⟩

theorem chain_head_le {a : Ck} {H : List Ck} (hc : Chain (a :: H)) :
    ∀ b ∈ a :: H, b.leaves <+: a.leaves ∧ b.time ≤ a.time := by
  intro b hb
  have hp := chain_pairwise _ hc
  cases hb with
  | head => exact ⟨List.prefix_refl _, Nat.le_refl _⟩
  | tail _ hb' =>
    have := (List.pairwise_cons.1 hp).1 b hb'
    exact ⟨this.1, Nat.le_of_lt this.2⟩

theorem Inv.comparable {s : Sys} (hinv : Inv s) {c d : Ck} (hc : c ∈ s.lockHist) (hd : d ∈ s.lockHist) :
    c.leaves <+: d.leaves ∨ d.leaves <+: c.leaves := by
  rcases pairwise_total (chain_pairwise _ hinv.chain) c hc d hd with rfl | h | h
  · exact .inl (List.prefix_refl _)
  · exact .inr h.1
  · exact .inl h.1

theorem Inv.leaf_agree {s : Sys} (hinv : Inv s) {c d : Ck} (hc : c ∈ s.lockHist) (hd : d ∈ s.lockHist) {i : Nat}
    (hi : i < c.leaves.length) (hj : i < d.leaves.length) : c.leaves[i]? = d.leaves[i]? := by
  rcases hinv.comparable hc hd with h | h
  · exact (prefix_getElem? h hi).symm
  · exact prefix_getElem? h hj

theorem lock_mem_hist {s : Sys} (hinv : Inv s) {c : Ck} (hl : s.lock = some c) : c ∈ s.lockHist :=
  head_mem (by rw [hinv.head]; exact hl)

theorem lock_extends_hist {s : Sys} (hinv : Inv s) {c : Ck} (hl : s.lock = some c) :
    ∀ b ∈ s.lockHist, b.leaves <+: c.leaves ∧ b.time ≤ c.time := by
  have hh := hinv.head
  have hc := hinv.chain
  rw [hl] at hh
  cases hH : s.lockHist with
  | nil => rw [hH] at hh; simp at hh
  | cons a t =>
    rw [hH] at hh hc
    simp at hh; subst hh
    exact chain_head_le hc

end Seq
