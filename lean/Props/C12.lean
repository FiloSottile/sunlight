import Proofs.ClientV
import Proofs.TileAuth
import Proofs.Checkpoint
/-! C12 — The monitoring client never yields unauthenticated log content.

The theorems are about `Model/ClientV.lean` (`cutEntry`, `scanTile`, `clientEntry`, `checkInclusion`,
`clientCheckpoint`): the served data tiles, inclusion proofs, SCTs and notes are **arbitrary**
(universally quantified) inputs. Hashing is an abstract `HashFn` under the explicit hypotheses
`LeafInj` (RecordHash has no collisions) and `NodeInj` (NodeHash has none); signatures are
parameters (`sigVerify`, `Checkpoint.Crypto`).

One hypothesis of `C12_entries_authentic` is a *contract*, not proved there: the leaf hashes an entry of `Entries` /
`AllEntries` is compared with are those of the committed leaves (`hauth`). torchwood takes them from
`tlog.TileHashReader`, whose documentation promises it. `C12_entries_authentic_tiles` derives `hauth` from the checks
that reader is written to make (`TileAuth.Verified`); at the pinned version it omits some of them (finding F10, at
`C12_pinned_tile_reader_sound_where_it_skips_nothing`), so for the reader as it is the contract is proved only at the
sizes where nothing is omitted. `Entry` / `CheckInclusion` need no such contract: they check an inclusion proof against the
tree head themselves (`Merkle.checkRecord_sound`). torchwood's fetching, retrying and caching are exercised by
`vh client`, not modelled. -/
namespace C12
open ClientV Codec Merkle

variable {H : Type} [DecidableEq H]

/-- **C12_entries_authentic.** Whatever bytes a data tile holds: every pair `(i, e)` the entry
iterators yield from it has `start ≤ i`, lies in the tile, and the Merkle leaf of `e` *is* `L[i]`, for
any leaf list `L` whose leaf hashes from `i0` on are the ones the entries are compared with (`hauth`,
the tile-reader contract); hence its covered fields (timestamp, entry type, certificate / TBS, a
precertificate's issuer key hash, leaf index) are those of the committed entry. The tree head enters
only through `hauth`: `_hopen` is not needed, it records which `L` the contract is meant for. -/
theorem C12_entries_authentic (hf : HashFn H) (hinj : LeafInj hf) (allow : Bool) (start i0 : Nat)
    (data : Bytes) (hs : List H) (t : Tree H) (L : List Bytes) (_hopen : Opens hf t L)
    (hauth : ∀ k h, hs[k]? = some h → (L.map hf.leaf)[i0 + k]? = some h)
    (i : Nat) (e : LogEntry) (hy : (i, e) ∈ (scanTile hf allow start i0 data hs).1) :
    start ≤ i ∧ i0 ≤ i ∧ i < i0 + hs.length ∧
      (∃ m, merkleTreeLeaf e = some m ∧ L[i]? = some m) ∧
      (∀ g : LogEntry, WF g → (merkleTreeLeaf g).isSome → merkleTreeLeaf g = L[i]? → covered e = covered g) := by
  obtain ⟨h1, h2, h3, m, hm, hL, wf⟩ := scanTile_sound hinj hauth (i, e) hy
  refine ⟨h1, h2, h3, ⟨m, hm, hL⟩, ?_⟩
  intro g wg _ hg
  exact mtl_inj e g wf wg (by rw [hm, hg, hL])

/-- **C12_entries_authentic_tiles.** The same statement with the tile reader's contract derived: instead of assuming
that the leaf hashes the entries are compared with are authentic (`hauth`), assume only the checks
`tlog.TileHashReader.ReadHashes` is written to make before it returns them (`TileAuth.Verified`; the pinned version
omits some of the parent comparisons, see below): the right-edge hash tiles, with the widths the tree size prescribes,
recombine to the root of the tree head, and the level-0 hash tile in question is either the edge tile of level 0 or
hashes, tile by tile, up to an entry of a tile checked before it. All served hash tiles are arbitrary.
(`TileAuth.edge_complete` / `child_complete`: the authentic tiles of every non-empty tree meet the hypotheses.) -/
theorem C12_entries_authentic_tiles (hf : HashFn H) (hinj : LeafInj hf) (hnode : NodeInj hf.node) (allow : Bool)
    (start : Nat) (data : Bytes) (t : Tree H) (L : List Bytes) (hopen : Opens hf t L) (hne : L ≠ [])
    (edges : Nat → List H) (T N : Nat) (hs : List H)
    (hT : t.n < 256 ^ T)
    (hw : ∀ j, (edges j).length = TileAuth.edgeWidth t.n j)
    (hroot : TileAuth.edgeF hf.node hf.empty edges T = some t.root)
    (hv : TileAuth.Verified hf.node hf.empty t.n edges 0 N hs)
    (i : Nat) (e : LogEntry) (hy : (i, e) ∈ (scanTile hf allow start (N * 256) data hs).1) :
    start ≤ i ∧ N * 256 ≤ i ∧ i < N * 256 + hs.length ∧
      (∃ m, merkleTreeLeaf e = some m ∧ L[i]? = some m) ∧
      (∀ g : LogEntry, WF g → (merkleTreeLeaf g).isSome → merkleTreeLeaf g = L[i]? → covered e = covered g) := by
  obtain ⟨hlen, hr⟩ := hopen
  have hB : (L.map hf.leaf).length = t.n := by rw [List.length_map, hlen]
  have hBne : L.map hf.leaf ≠ [] := by
    intro h; apply hne; exact List.map_eq_nil_iff.1 h
  have hauth : ∀ k h, hs[k]? = some h → (L.map hf.leaf)[N * 256 + k]? = some h :=
    TileAuth.verified_leaf_hashes hf.node hf.empty hnode (L.map hf.leaf) edges T hBne (by rw [hB]; exact hT)
      (by rw [hB]; exact hw) (by rw [hr]; exact hroot) (by rw [hB]; exact hv)
  exact C12_entries_authentic hf hinj allow start (N * 256) data hs t L ⟨hlen, hr⟩ hauth i e hy

/-- **A sound tile reader.** `TileAuth.readLeafHash` is an executable reader that performs every check
of `TileAuth.Verified`; whatever tiles are served, a hash it returns for leaf `i` of a tree head is the record hash of
leaf `i` of every leaf list that tree head commits to. -/
theorem C12_tile_reader_sound (hf : HashFn H) (hnode : NodeInj hf.node) (B : List H)
    (tiles : List (TileAuth.TileData H)) (i : Nat) (h : H)
    (hr : TileAuth.readLeafHash hf.node hf.empty B.length (mth hf.node hf.empty B) tiles i = some h) : B[i]? = some h :=
  TileAuth.readLeafHash_sound hf.node hf.empty hnode B tiles i h hr

/-- **The pinned tile reader (finding F10).** `tlog.TileHashReader` at the pinned version is that reader MINUS the
parent comparison of the first `popcount n − #(non-empty edge tiles)` tiles of the chain (`TileAuth.readLeafHashTlog`;
the driver of engine `tilereader` checks that the real code is exactly this function on every served tile set). It is
sound for the sizes at which nothing is skipped — and only the correspondence run, not a theorem, stands behind the
others: there the real reader hands out served hashes unauthenticated (replayed by
`corpus/C12/tilereader-F10-unauthenticated-tile.json` and, through `sunlight.Client`, by
`corpus/C12/client-F10-tilepair.json`). -/
theorem C12_pinned_tile_reader_sound_where_it_skips_nothing (hf : HashFn H) (hnode : NodeInj hf.node) (B : List H)
    (tiles : List (TileAuth.TileData H)) (i : Nat) (h : H) (hs : TileAuth.tlogSkipped B.length = 0)
    (hr : TileAuth.readLeafHashTlog hf.node hf.empty B.length (mth hf.node hf.empty B) tiles i = some h) : B[i]? = some h :=
  TileAuth.readLeafHashTlog_sound_of_no_skip hf.node hf.empty hnode B tiles i h hs hr

/-- values of `tlogSkipped`, the number of chain tiles, counted from the top, whose parent comparison the pinned reader
omits (all of them when the chain is shorter): none at 256 and 257, one at 259 (three peaks in two edge tiles), two at 300 -/
example : TileAuth.tlogSkipped 256 = 0 ∧ TileAuth.tlogSkipped 257 = 0 ∧ TileAuth.tlogSkipped 259 = 1 ∧
    TileAuth.tlogSkipped 300 = 2 := by decide

/-- **C12_entry_index / authentic.** `Client.Entry(tree, index)` — for any served tile and any
proof — returns only an entry whose Merkle leaf is the committed leaf at `index`, and (unless it
is an archival leaf, which has no index) whose leaf index is `index`. -/
theorem C12_entry_index (hf : HashFn H) (hinj : LeafInj hf) (hnode : NodeInj hf.node) (allow : Bool)
    (t : Tree H) (index : Nat) (data : Bytes) (proof : List H) (e : LogEntry)
    (h : clientEntry hf allow t index data proof = some e) :
    index < t.n ∧ (e.archival = false → e.leafIndex = Int.ofNat index) ∧
      ∀ L, Opens hf t L →
        (∃ m, merkleTreeLeaf e = some m ∧ L[index]? = some m) ∧
        (∀ g : LogEntry, WF g → merkleTreeLeaf g = L[index]? → covered e = covered g) := by
  obtain ⟨h1, h2, wf, m, hm, hL⟩ := clientEntry_sound hinj hnode h
  refine ⟨h1, h2, fun L hopen => ⟨⟨m, hm, hL L hopen⟩, ?_⟩⟩
  intro g wg hg
  exact mtl_inj e g wf wg (by rw [hm, hg, hL L hopen])

/-- without `AllowRFC6962ArchivalLeafs` no archival leaf is ever returned, so the index always matches -/
theorem C12_entry_index_strict (hf : HashFn H) (t : Tree H) (index : Nat) (data : Bytes) (proof : List H) (e : LogEntry)
    (h : clientEntry hf false t index data proof = some e) : e.archival = false ∧ e.leafIndex = Int.ofNat index := by
  obtain ⟨_, hidx, _, _, _, _, hpe⟩ := clientEntry_inv h
  have ha := (parseEntry_inv hpe).2 rfl
  exact ⟨ha, hidx ha⟩

/-- **C12_inclusion.** An SCT is confirmed only if its version is v1, its log ID is that of the
configured key, its leaf_index extension names an index whose *authentic* leaf (as above) has the
SCT's timestamp, and the signature verifies under the configured key over that leaf. -/
theorem C12_inclusion (hf : HashFn H) (hinj : LeafInj hf) (hnode : NodeInj hf.node) (allow : Bool)
    (keyId : Bytes) (sigVerify : Bytes → Bytes → Bool) (t : Tree H) (served : Nat → Bytes × List H)
    (s : SCT) (hts64 : s.timestamp < 18446744073709551616)   -- a uint64 field of the wire format
    (e : LogEntry) (h : checkInclusion hf allow keyId sigVerify t served s = some e) :
    s.version = 0 ∧ s.logId = keyId ∧
    ∃ idx : Int, parseExtensions s.extensions = .ok idx ∧ idx.toNat < t.n ∧
      (e.archival = false → e.leafIndex = Int.ofNat idx.toNat) ∧
      e.timestamp = Int.ofNat s.timestamp ∧
      ∃ m, merkleTreeLeaf e = some m ∧ sigVerify m s.signature = true ∧
        ∀ L, Opens hf t L → L[idx.toNat]? = some m := by
  obtain ⟨hv, hid, idx, hext, hentry, hts, m, hm, hsig⟩ := checkInclusion_inv h
  obtain ⟨h1, h2, wf, m', hm', hL⟩ := clientEntry_sound hinj hnode hentry
  rw [hm] at hm'
  cases hm'
  -- a well-formed entry's timestamp is non-negative, so `int64` of the SCT's did not wrap
  have hts0 : 0 ≤ e.timestamp := wf.ts_nonneg
  exact ⟨hv, hid, idx, hext, h1, h2, hts.trans (i64_of_nonneg hts64 (hts ▸ hts0)), m, hm, hsig, hL⟩

open Checkpoint in
/-- **C12_checkpoint.** A checkpoint is returned only if it is the parse of the fetched note's text,
its origin is the note's first line, it has no extension lines, and one of the note's signatures is an RFC 6962
TreeHeadSignature by the **configured key** over exactly this size and root hash (with some
timestamp): nothing signed only by other keys is ever returned. -/
theorem C12_checkpoint (cv : Crypto) (key : PubKey) (kh : Bytes → Nat) (note : Note) (c : Checkpoint.Checkpoint)
    (h : clientCheckpoint cv key kh note = some c) :
    parseCheckpoint note.text = some c ∧ c.origin = firstLine note.text ∧ c.ext = [] ∧
      ∃ s ∈ note.sigs, ∃ x alg, parseNoteSig s.sig = some x ∧ algOf key.kind = some alg ∧ x.sigAlg = alg ∧
        independentVerify cv key c.n.toNat x.timestamp c.hash x.signature = true := by
  obtain ⟨hp, ho, s, hs, _, hv⟩ := clientCheckpoint_sound h
  obtain ⟨c', x, a⟩ := verifier_iff.mp hv
  cases hp.symm.trans a.parses
  exact ⟨hp, ho, a.no_ext, s, hs, x, _, a.blob, a.sig_alg, rfl, a.verifies⟩

/-! ## Non-vacuity: a two-entry log in the free hash algebra (no collisions by construction) -/
section examples

open ClientV.Demo

def e0 : LogEntry := { certificate := [1, 2, 3], isPrecert := false, issuerKeyHash := zeros32, chainFingerprints := [],
                       preCertificate := [], leafIndex := 0, archival := false, timestamp := 5 }
def e1 : LogEntry := { e0 with certificate := [9], leafIndex := 1, timestamp := 6 }
/-- the same position with a different (covered) certificate -/
def e1bad : LogEntry := { e1 with certificate := [8] }
/-- the same entry with different *uncovered* data -/
def e1fp : LogEntry := { e1 with chainFingerprints := [List.replicate 32 7] }

def enc (e : LogEntry) : Bytes := (appendTileLeaf [] e).getD []
def mtl (e : LogEntry) : Bytes := (merkleTreeLeaf e).getD []
def tileOK : Bytes := enc e0 ++ enc e1
def hashes : List T := [T.leaf (mtl e0), T.leaf (mtl e1)]
def tree2 : Tree T := ⟨2, T.node (T.leaf (mtl e0)) (T.leaf (mtl e1))⟩

example : Opens thf tree2 [mtl e0, mtl e1] := by
  refine ⟨rfl, ?_⟩
  show mth T.node T.empty [T.leaf (mtl e0), T.leaf (mtl e1)] = _
  have h2 : split 2 = 1 := split_unique (a := 0) (by decide) (by decide)
  rw [mth_unfold _ _ _ (by simp)]
  simp only [List.length_cons, List.length_nil, h2, List.take, List.drop, mth_singleton]
  rfl
-- the honest tile is yielded completely, from any start
example : scanTile thf false 0 0 tileOK hashes = ([(0, e0), (1, e1)], true) := by decide +kernel
example : scanTile thf false 1 0 tileOK hashes = ([(1, e1)], true) := by decide +kernel
-- a covered field altered: entry 0 was already yielded, entry 1 is not, the scan fails
example : scanTile thf false 0 0 (enc e0 ++ enc e1bad) hashes = ([(0, e0)], false) := by decide +kernel
-- an uncovered field altered: still yielded (with the served chain fingerprints)
example : scanTile thf false 0 0 (enc e0 ++ enc e1fp) hashes = ([(0, e0), (1, e1fp)], true) := by decide +kernel
-- entries swapped, truncated tile, trailing garbage
example : scanTile thf false 0 0 (enc e1 ++ enc e0) hashes = ([], false) := by decide +kernel
example : scanTile thf false 0 0 (enc e0) hashes = ([(0, e0)], false) := by decide +kernel
example : (scanTile thf false 0 0 (tileOK ++ [0]) hashes).2 = false := by decide +kernel
-- Entry with the honest proof (reversed order: one sibling), and with the sibling of the other leaf
example : clientEntry thf false tree2 1 tileOK [T.leaf (mtl e0)] = some e1 := by decide +kernel
example : clientEntry thf false tree2 1 tileOK [T.leaf (mtl e1)] = none := by decide +kernel
example : clientEntry thf false tree2 1 (enc e0 ++ enc e1bad) [T.leaf (mtl e0)] = none := by decide +kernel
-- a leaf served at the wrong position is refused by the proof check before the index check matters
example : clientEntry thf false tree2 0 (enc e1 ++ enc e0) [T.leaf (mtl e1)] = none := by decide +kernel

/-- symbolic SCT signatures: valid iff the blob is `0xAA` followed by the signed message -/
def symSig (m s : Bytes) : Bool := s == 0xAA :: m
def ext1 : Bytes := (marshalExtensions 1).getD []
def sct1 : SCT := ⟨0, [7, 7], 6, ext1, 0xAA :: mtl e1⟩
def served2 : Nat → Bytes × List T := fun i => (tileOK, if i = 1 then [T.leaf (mtl e0)] else [T.leaf (mtl e1)])

example : checkInclusion thf false [7, 7] symSig tree2 served2 sct1 = some e1 := by decide +kernel
example : checkInclusion thf false [7, 8] symSig tree2 served2 sct1 = none := by decide +kernel                       -- other log
example : checkInclusion thf false [7, 7] symSig tree2 served2 { sct1 with timestamp := 5 } = none := by decide +kernel -- timestamp
example : checkInclusion thf false [7, 7] symSig tree2 served2 { sct1 with extensions := (marshalExtensions 0).getD [] } = none := by decide +kernel
example : checkInclusion thf false [7, 7] symSig tree2 served2 { sct1 with signature := 0xAA :: mtl e0 } = none := by decide +kernel
example : checkInclusion thf false [7, 7] symSig tree2 served2 { sct1 with version := 1 } = none := by decide +kernel

/-! a checkpoint note with a grease line and the signature of the configured key -/
section ckpt
open Checkpoint
def name0 : Bytes := TilePath.ascii "example.com/log"
def root0 : Bytes := List.replicate 32 7
def key0 : PubKey := { kind := .ecdsa, id := [1, 2, 3] }
def text0 : Bytes := formatCheckpoint { origin := name0, n := 42, hash := root0, ext := [] }
def sth0 : Bytes := (sthInput 42 1700000000000 root0).getD []
def sig0 : NoteSig := { timestamp := 1700000000000, hashAlg := 4, sigAlg := 3, signature := symSign key0 sth0 }
def kh0 : Bytes → Nat := fun _ => 77
def grease : SigLine := ⟨TilePath.ascii "grease.invalid", 5, [1, 2, 3]⟩
def note0 : Note := { text := text0, sigs := [grease, ⟨name0, 77, sig0.encode⟩] }

example : (clientCheckpoint symCv key0 kh0 note0).map (fun c => (c.n, c.hash)) = some (42, root0) := by decide +kernel
-- a client configured with another key refuses the same note
example : clientCheckpoint symCv { key0 with id := [4] } kh0 note0 = none := by decide +kernel
-- only signatures the client cannot check
example : clientCheckpoint symCv key0 kh0 { note0 with sigs := [grease] } = none := by decide +kernel
-- the text altered after signing (another size)
example : clientCheckpoint symCv key0 kh0
    { note0 with text := formatCheckpoint { origin := name0, n := 43, hash := root0, ext := [] } } = none := by decide +kernel
end ckpt

end examples
end C12
