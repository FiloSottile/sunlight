import Proofs.LocalFS
/-! C13 — The filesystem backend is atomic, durable, immutable-respecting and confined.
Property theorems only; the model is `Model/LocalFS.lean` (system-call traces of
`LocalBackend.Upload/Fetch/Discard`, `durable.WriteFile/Mkdir/MkdirAll`, a file system with a
volatile and a durable view, power loss = durable view + ANY subset of pending directory-entry
changes + arbitrary bytes in every un-synced file).

The theorems are for every key, content, directory depth and crash choice. The pre-state is arbitrary except:
`C13_atomic_durable` and `C13_immutable_after_upload` start where everything written before is on disk (`Reach`
says which states these are, and which are left out), and the `Upload` part of `C13_confined` needs the backend
directory to exist. What ties them to the code: `Tie/C13.lean` (source order of calls/defers, branch structure,
buffer expression) and `vh localfs` + `drv localfs` (the real system calls of the real `LocalBackend`, observed with strace,
must be exactly `uploadTrace`). Outside the model: that the kernel honours `fsync`/`rename` as the
crash model says, the effect of the immutable inode flag, real reader/writer interleavings (sampled). -/
namespace C13
open LocalFS

/-! ### Atomic and durable -/

/-- Atomicity and durability of `LocalBackend.Upload`. For an accepted key, EVERY crash point `k` of the
system-call sequence of the upload and EVERY crash choice `c` (persisted subset of pending directory-entry
changes, junk in un-synced files), recovery finds the object as it was before the upload (possibly none) or the
complete new one; and once `Upload` returned nil, every recovery and every reader finds the complete new object,
and everything is on disk. Covers freshly created directories (`MkdirAll`), overwrites, immutable first writes
and immutable re-uploads. Assumed of the pre-state: everything written before is on disk (`Quiescent`: so after
every reboot, `C13_quiescent_after_crash`, and after every upload that returned nil, by this theorem; NOT after
a killed upload, F4 below). `WF` (directory entries have records) and `FreshInodes` (inode numbers in use are below
`next`) say that the model state is well formed. `C13_hypotheses_reachable`: states that satisfy all three. -/
theorem C13_atomic_durable (P : Program) (dir : Path) (key data : Bytes) (o : Opts) (rnd : Name) (s : FS)
    (comps : Path) (hq : Quiescent s) (hwf : WF s) (hfr : FreshInodes s)
    (hloc : localize key = some comps) :
    (∀ (k : Nat) (c : CrashChoice),
      (crash c (run s ((uploadTrace P dir key data o rnd s).1.take k))).object (dir ++ comps) = s.object (dir ++ comps) ∨
      (crash c (run s ((uploadTrace P dir key data o rnd s).1.take k))).object (dir ++ comps) = some data) ∧
    ((uploadTrace P dir key data o rnd s).2 = .ok →
      (∀ c : CrashChoice, (crash c (run s (uploadTrace P dir key data o rnd s).1)).object (dir ++ comps) = some data) ∧
      (run s (uploadTrace P dir key data o rnd s).1).object (dir ++ comps) = some data ∧
      Quiescent (run s (uploadTrace P dir key data o rnd s).1)) := by
  have h := upload_atomic_durable P dir key data o rnd s comps hq hwf hfr hloc
  refine ⟨fun k c => h.safe k c, fun hok => ?_⟩
  obtain ⟨hquiet, hobj⟩ := h.done hok
  exact ⟨fun c => by rw [crash_quiescent c _ hquiet]; exact hobj, hobj, hquiet⟩

/-- After any power loss (and the reboot) everything is on disk, whatever was going on: the first hypothesis of
`C13_atomic_durable`. -/
theorem C13_quiescent_after_crash (c : CrashChoice) (s : FS) : Quiescent (crash c s) := quiescent_crash c s

/-- States in which the hypotheses of `C13_atomic_durable` hold (`C13_hypotheses_reachable`): those reached from a
state `s0` that is `Quiescent` and satisfies `Inv` by uploads of accepted keys that returned nil and by power losses
at ANY point of ANY upload (followed by the reboot). Not covered, because not `Quiescent`: the state left by an
upload that returned an error after writing (a refused rename: the entry changes of the temporary file stay
un-synced), by a `Discard` (its unlink is not synced) or by a killed process (F4 below). `Inv`
(`Proofs/LocalFSInv.lean`) implies `WF` and `FreshInodes` and holds in every state an upload goes through. -/
inductive Reach (P : Program) (dir : Path) (s0 : FS) : FS → Prop where
  | init : Reach P dir s0 s0
  | upload (s : FS) (key data : Bytes) (o : Opts) (rnd : Name) (comps : Path) :
      Reach P dir s0 s → localize key = some comps →
      (uploadTrace P dir key data o rnd s).2 = .ok → Reach P dir s0 (run s (uploadTrace P dir key data o rnd s).1)
  | powerLoss (s : FS) (key data : Bytes) (o : Opts) (rnd : Name) (k : Nat) (c : CrashChoice) :
      Reach P dir s0 s → Reach P dir s0 (crash c (run s ((uploadTrace P dir key data o rnd s).1.take k)))

theorem reach_quiescent_inv (P : Program) (dir : Path) (s0 s : FS) (hq0 : Quiescent s0) (hi0 : Inv s0)
    (h : Reach P dir s0 s) : Quiescent s ∧ Inv s := by
  induction h with
  | init => exact ⟨hq0, hi0⟩
  | upload s key data o rnd comps _ hloc hok ih =>
    exact ⟨((upload_atomic_durable P dir key data o rnd s comps ih.1 ih.2.wf ih.2.fresh hloc).done hok).1,
      safeAlong_final (upload_inv P dir key data o rnd s ih.2)⟩
  | powerLoss s key data o rnd k c _ ih =>
    exact ⟨C13_quiescent_after_crash c _, (upload_inv P dir key data o rnd s ih.2 k).crash c⟩

theorem C13_hypotheses_reachable (P : Program) (dir : Path) (s0 s : FS) (hq0 : Quiescent s0) (hi0 : Inv s0)
    (h : Reach P dir s0 s) : Quiescent s ∧ WF s ∧ FreshInodes s :=
  have hs := reach_quiescent_inv P dir s0 s hq0 hi0 h
  ⟨hs.1, hs.2.wf, hs.2.fresh⟩

/-! Non-vacuity: a world with a synced backend directory `r` satisfies the hypotheses; a first
upload of `a/b` (new directory, immutable) issues 23 system calls; a crash after 18 of them (the rename is
issued, the parent not yet synced) leaves either nothing or the complete object depending on which pending
changes reached the disk — and after all 23, always the complete object. -/

def demoRoot : Name := [0x72]
def demoWorld : FS :=
  { files := fun _ => none
    dirs := fun p => if p = [] then some { durable := fun n => if n = demoRoot then some .dir else none, pending := [] }
                     else if p = [demoRoot] then some Dir.empty else none
    next := 1 }
def kAB : Bytes := [0x61, 0x2f, 0x62]       -- "a/b"
def pAB : Path := [demoRoot, [0x61], [0x62]]
def dat1 : Bytes := [1, 2, 3]
def dat2 : Bytes := [1, 2, 4]
def rnd1 : Name := [0x37]
def imm : Opts := { immutable := true }
def plain : Opts := { immutable := false }

theorem demoWorld_dirs {p : Path} {d : Dir} (h : demoWorld.dirs p = some d) :
    (p = [] ∧ d = { durable := fun n => if n = demoRoot then some .dir else none, pending := [] }) ∨
    (p = [demoRoot] ∧ d = Dir.empty) := by
  simp only [demoWorld] at h
  split at h
  · exact .inl ⟨‹_›, (Option.some.inj h).symm⟩
  · split at h
    · exact .inr ⟨‹_›, (Option.some.inj h).symm⟩
    · cases h

theorem demo_quiescent : Quiescent demoWorld :=
  ⟨fun p d hd => by rcases demoWorld_dirs hd with ⟨_, rfl⟩ | ⟨_, rfl⟩ <;> rfl, fun i f hf => by cases hf⟩

theorem demo_inv : Inv demoWorld := by
  refine ⟨by simp [demoWorld], fun a d n hd hm => ?_, fun a d n i hd hm => ?_⟩ <;>
    rcases demoWorld_dirs hd with ⟨rfl, rfl⟩ | ⟨rfl, rfl⟩ <;>
    simp only [Dir.empty, cands_nil_pending, List.mem_singleton] at hm
  · split at hm
    · subst n; simp [demoWorld]
    · cases hm
  · cases hm
  · split at hm <;> cases hm
  · cases hm

theorem demo_wf : WF demoWorld := demo_inv.wf

theorem demo_fresh : FreshInodes demoWorld := demo_inv.fresh

def demoTrace : List Sys := (uploadTrace program [demoRoot] kAB dat1 imm rnd1 demoWorld).1

example : demoTrace.length = 23 ∧ (uploadTrace program [demoRoot] kAB dat1 imm rnd1 demoWorld).2 = .ok := by decide
example : localize kAB = some [[0x61], [0x62]] := by decide

/-- after the rename, before the fsync of the parent: both outcomes occur -/
example : (crash { keep := fun _ => [], junk := fun _ => [] } (run demoWorld (demoTrace.take 18))).object pAB = none := by
  decide
example : (crash { keep := fun _ => [true, true, true], junk := fun _ => [] } (run demoWorld (demoTrace.take 18))).object pAB
    = some dat1 := by decide
/-- …but never a partial object, also not when the file data was not synced yet (junk = a prefix) -/
example : (crash { keep := fun _ => [true, true, true], junk := fun _ => [1] } (run demoWorld (demoTrace.take 14))).object pAB
    = none := by decide
example : ∀ c : CrashChoice, (crash c (run demoWorld demoTrace)).object pAB = some dat1 :=
  ((C13_atomic_durable program [demoRoot] kAB dat1 imm rnd1 demoWorld _ demo_quiescent demo_wf demo_fresh
    (by decide)).2 (by decide)).1

/-! ### Order of the system calls -/

/-- Order. An upload that writes (not immutable, or no object there yet) and returns nil contains, contiguously:
open the parent directory, create the temporary file in it, chmod, write the data, **fsync(file)**, close, lstat,
**rename** over the object, **fsync(parent directory)**, close. -/
theorem C13_order (P : Program) (dir : Path) (key data : Bytes) (o : Opts) (rnd : Name) (s : FS)
    (comps par : Path) (base : Name) (hloc : localize key = some comps) (hpath : dir ++ comps = par ++ [base])
    (hres : (uploadTrace P dir key data o rnd s).2 = .ok)
    (hw : o.immutable = false ∨ s.lookup (par ++ [base]) = none) :
    ∃ A D existed, (uploadTrace P dir key data o rnd s).1 =
      A ++ [.openDir par, .creat (par ++ [tmpName base rnd]) s.next,
            .fchmod (par ++ [tmpName base rnd]) s.next (if o.immutable then modeImmutable else modeDefault),
            .write (par ++ [tmpName base rnd]) s.next data, .fsync (par ++ [tmpName base rnd]) s.next,
            .close (par ++ [tmpName base rnd]), .lstat (par ++ [base]) existed,
            .rename (par ++ [tmpName base rnd]) (par ++ [base]) (.file s.next) true,
            .fsyncDir par, .closeDir par] ++ D :=
  upload_write_order P dir key data o rnd s comps par base hloc hpath hres hw

/-- Every `mkdir` any upload issues is followed by **fsync(new directory)** and then
**fsync(its parent)**, contiguously, before anything else happens. -/
theorem C13_order_mkdir (P : Program) (dir : Path) (key data : Bytes) (o : Opts) (rnd : Name) (s : FS) (p : Path)
    (h : Sys.mkdir p ∈ (uploadTrace P dir key data o rnd s).1) :
    ∃ A D, (uploadTrace P dir key data o rnd s).1 =
      A ++ [.openDir (parentOf p), .mkdir p, .openDir p, .fsyncDir p, .closeDir p,
            .fsyncDir (parentOf p), .closeDir (parentOf p)] ++ D := by
  obtain ⟨A, D, e⟩ := upload_mkdir_order P dir key data o rnd s p h
  exact ⟨A, D, by rw [e, mkdirTrace_eq]⟩

/-- The order is a consequence of Go's LIFO `defer` applied to the source order of `WriteFile`. -/
example : execOrder writeFileProgram =
    [.openParent, .createTemp, .chmod, .write, .syncCloseTmp, .renameOrRemove, .syncCloseParent] := by decide
example : execOrder mkdirProgram = [.openParent, .mkdir, .openSelf, .syncCloseSelf, .syncCloseParent] := by decide
/-- Swapping the two `defer`s of `WriteFile` would rename before the data is synced. -/
example : execOrder [⟨false, .openParent⟩, ⟨true, .syncCloseParent⟩, ⟨false, .createTemp⟩, ⟨true, .syncCloseTmp⟩,
      ⟨false, .chmod⟩, ⟨true, .renameOrRemove⟩, ⟨false, .write⟩] =
    [.openParent, .createTemp, .chmod, .write, .renameOrRemove, .syncCloseTmp, .syncCloseParent] := by decide
example : Sys.mkdir [demoRoot, [0x61]] ∈ demoTrace := by decide

/-! ### Immutable objects -/

/-- Once an object exists (in particular after an immutable upload returned, see
`C13_immutable_after_upload`), an immutable upload of the **same bytes returns nil**, one of
**different bytes fails**, and in both cases **no system call changes anything** — for every
content. This needs `compareFile` to terminate, which is exactly `P.Progress`: the read buffer is
never empty. -/
theorem C13_immutable (P : Program) (hP : P.Progress) (dir : Path) (key data d : Bytes) (rnd : Name) (s : FS)
    (comps : Path) (hloc : localize key = some comps)
    (hobj : s.object (dir ++ comps) = some d) :
    ((uploadTrace P dir key data imm rnd s).2 = if d = data then .ok else .mismatch) ∧
    run s (uploadTrace P dir key data imm rnd s).1 = s := by
  have h := upload_immutable_existing P dir key data d rnd s comps hloc hobj
  rwa [if_pos (hP data.length)] at h

/-- The two-upload form: after an immutable upload of `d` returned nil (from a pre-state as in
`C13_atomic_durable`), a second immutable upload returns nil for the same bytes, fails for different ones, and
the object is still `d`. -/
theorem C13_immutable_after_upload (P : Program) (hP : P.Progress) (dir : Path) (key d data : Bytes) (rnd rnd' : Name)
    (s : FS) (comps : Path) (hq : Quiescent s) (hwf : WF s) (hfr : FreshInodes s)
    (hloc : localize key = some comps)
    (hfirst : (uploadTrace P dir key d imm rnd s).2 = .ok) :
    let s1 := run s (uploadTrace P dir key d imm rnd s).1
    ((uploadTrace P dir key data imm rnd' s1).2 = if d = data then .ok else .mismatch) ∧
    (run s1 (uploadTrace P dir key data imm rnd' s1).1).object (dir ++ comps) = some d := by
  intro s1
  have hobj : s1.object (dir ++ comps) = some d :=
    ((upload_atomic_durable P dir key d imm rnd s comps hq hwf hfr hloc).done hfirst).2
  obtain ⟨h1, h2⟩ := C13_immutable P hP dir key data d rnd' s1 comps hloc hobj
  exact ⟨h1, by rw [h2]; exact hobj⟩

/-- The precondition is satisfiable: a one-byte lower bound on the buffer suffices, and it can be
checked syntactically on the buffer expression. -/
theorem C13_progress_guarded : programGuarded.Progress := Program.progress_of_pos _ (by decide)
theorem C13_progress_of_pos (P : Program) (h : P.buf.pos = true) : P.Progress := P.progress_of_pos h

/-- **F1** (/repo before commit 1e3891a). With the buffer expression `min(len(data), 16384)` (`program`) the
precondition fails, and the loop of `compareFile` never returns for empty data, whatever the fuel: an immutable
upload of empty bytes over ANY existing object (empty or not) hangs. The source has
`max(1, min(len(data), 16384))` (`programGuarded`, `C13_progress_guarded`); `TieC13.compare_buf_positive`
checks that the expression found in the source keeps the buffer non-empty. -/
theorem C13_F1_no_progress_as_found : ¬ program.Progress := fun h => Nat.lt_irrefl 0 (h 0)

theorem C13_F1_empty_data_never_returns (file : Bytes) (fuel : Nat) :
    (compareLoop (program.bufLen 0) fuel file []).2 = none := by
  rw [show program.bufLen 0 = 0 from rfl, compareLoop_zero_cap]

theorem C13_F1_immutable_empty_upload_hangs (dir : Path) (key d : Bytes) (rnd : Name) (s : FS) (comps : Path)
    (hloc : localize key = some comps) (hobj : s.object (dir ++ comps) = some d) :
    (uploadTrace program dir key [] imm rnd s).2 = .hang :=
  (upload_immutable_existing program dir key [] d rnd s comps hloc hobj).1

/-! Non-vacuity: same / different / longer / shorter / empty, with the guarded and the found program. -/
def demoS1 : FS := run demoWorld demoTrace
example : (uploadTrace programGuarded [demoRoot] kAB dat1 imm rnd1 demoS1).2 = .ok := by decide
example : (uploadTrace programGuarded [demoRoot] kAB dat2 imm rnd1 demoS1).2 = .mismatch := by decide
example : (uploadTrace programGuarded [demoRoot] kAB (dat1 ++ [0]) imm rnd1 demoS1).2 = .mismatch := by decide
example : (uploadTrace programGuarded [demoRoot] kAB [1, 2] imm rnd1 demoS1).2 = .mismatch := by decide
example : (uploadTrace programGuarded [demoRoot] kAB [] imm rnd1 demoS1).2 = .mismatch := by decide
example : (uploadTrace program [demoRoot] kAB dat1 imm rnd1 demoS1).2 = .ok := by decide
example : (uploadTrace program [demoRoot] kAB [] imm rnd1 demoS1).2 = .hang := by decide
/-- chunking: a 5-byte object compared with a 2-byte buffer takes reads of 2, 2, 1 and the EOF read -/
example : compareLoop 2 10 [1, 2, 3, 4, 5] [1, 2, 3, 4, 5] = ([(2, 2), (2, 2), (2, 1), (2, 0)], some true) := by decide
/-- comparing only the lengths would accept different bytes: the model compares the bytes -/
example : (compareLoop 2 10 [1, 2, 3] [1, 2, 4]).2 = some false := by decide

/-! ### Confinement -/

/-- (1) An accepted key is a NON-EMPTY list of plain names: no empty, `.` or `..` component, no
separator, no NUL; keys that are empty, `"."`, absolute, contain NUL or a `..` component are rejected.
(2) For a rejected key `Upload`, `Fetch` and `Discard` fail without a single system call. (3) For
EVERY accepted key every path named by any system call of `Fetch` and `Discard`, and, if the backend directory
exists, of `Upload` (incl. `MkdirAll`, the temporary file and its rename), is the backend directory or lies below
it. (`NewLocalBackend` accepts a directory that does not exist yet; the first `Upload` then makes it, and
whatever is missing above it.) -/
theorem C13_confined (P : Program) (dir : Path) (key data : Bytes) (o : Opts) (rnd : Name) (s : FS) :
    (∀ comps, localize key = some comps →
      comps ≠ [] ∧
      (∀ c ∈ comps, c ≠ [] ∧ c ≠ dot ∧ c ≠ dotdot ∧ slash ∉ c ∧ (0 : UInt8) ∉ c) ∧
      (s.lookup dir = some .dir →
        ∀ e ∈ (uploadTrace P dir key data o rnd s).1, ∀ x ∈ e.paths, Within dir x) ∧
      (∀ e ∈ (fetchTrace dir key s).1, ∀ x ∈ e.paths, Within dir x) ∧
      (∀ e ∈ (discardTrace dir key s).1, ∀ x ∈ e.paths, Within dir x)) ∧
    (localize key = none →
      uploadTrace P dir key data o rnd s = ([], .invalidKey) ∧ fetchTrace dir key s = ([], .invalidKey, none) ∧
      discardTrace dir key s = ([], .invalidKey)) ∧
    ((key = [] ∨ key = dot ∨ (∃ rest, key = slash :: rest) ∨ (0 : UInt8) ∈ key ∨ dotdot ∈ splitSlash key) →
      localize key = none) := by
  refine ⟨fun comps hloc => ⟨(localize_some hloc).2, localize_components hloc,
      upload_confined P dir key data o rnd s comps hloc,
      fetch_confined dir key s comps hloc, discard_confined dir key s comps hloc⟩,
    fun h => ⟨upload_rejected P dir key data o rnd s h, fetch_rejected dir key s h, discard_rejected dir key s h⟩, ?_⟩
  rintro (rfl | rfl | ⟨rest, rfl⟩ | h | h)
  · exact localize_rejects_empty
  · exact localize_rejects_dot.2
  · exact localize_rejects_absolute rest
  · exact localize_rejects_nul h
  · exact localize_rejects_dotdot h

/-- **F8** (/repo before commit 9a1f05e). `filepath.Localize` alone accepts the key `"."`,
which denotes the backend directory itself (no component: `Upload(".")` would put its temporary
file into the PARENT of the backend directory); the helper `localize` of local.go refuses it, so
`Upload(".")` issues no system call. -/
theorem C13_dot_key_rejected (P : Program) (dir : Path) (data : Bytes) (o : Opts) (rnd : Name) (s : FS) :
    stdLocalize dot = some [] ∧ localize dot = none ∧
    uploadTrace P dir dot data o rnd s = ([], .invalidKey) :=
  ⟨localize_rejects_dot.1, localize_rejects_dot.2, upload_rejected P dir dot data o rnd s localize_rejects_dot.2⟩

/-! Non-vacuity of the key rules. -/
example : localize [0x2e] = none := by decide                                          -- "."
example : localize [0x2e, 0x2e] = none := by decide                                    -- ".."
example : localize [0x61, 0x2f, 0x2e, 0x2e, 0x2f, 0x62] = none := by decide            -- "a/../b"
example : localize [0x2f, 0x61] = none := by decide                                    -- "/a"
example : localize [0x61, 0x2f] = none := by decide                                    -- "a/"
example : localize [0x61, 0x2f, 0x2f, 0x62] = none := by decide                        -- "a//b"
example : localize [0x61, 0x00] = none := by decide                                    -- NUL
example : localize [0xff] = none := by decide                                          -- not UTF-8
example : localize [0x61, 0x5c, 0x62] = some [[0x61, 0x5c, 0x62]] := by decide         -- "a\b" is one plain name on Unix
example : localize [0x2e, 0x2e, 0x2e] = some [[0x2e, 0x2e, 0x2e]] := by decide         -- "..."
example : ∀ e ∈ demoTrace, ∀ x ∈ e.paths, Within [demoRoot] x :=
  (C13_confined program [demoRoot] kAB dat1 imm rnd1 demoWorld).1 [[0x61], [0x62]] (by decide) |>.2.2.1 (by decide)

/-! ### F4: what the theorem's hypothesis excludes

`C13_atomic_durable` assumes a quiescent pre-state. A process that is KILLED (not a power loss)
leaves the volatile state as it is. If an upload is killed between `rename` and the fsync of the
parent directory, the object is visible but its directory entry is not on disk; an immutable
re-upload of the same bytes then finds the object, compares, and returns nil WITHOUT any fsync: the
upload returned, and a power loss right afterwards loses the object. The same happens when the
killed upload had created a directory whose entry was not synced yet (`MkdirAll` skips existing
directories without syncing them). -/
def killedState : FS := run demoWorld ((uploadTrace program [demoRoot] kAB dat1 imm rnd1 demoWorld).1.take 18)

theorem C13_F4_reupload_after_killed_upload_not_durable :
    -- the retry sees the complete object and returns nil …
    killedState.object pAB = some dat1 ∧
    (uploadTrace program [demoRoot] kAB dat1 imm rnd1 killedState).2 = .ok ∧
    -- … having issued no fsync at all …
    (∀ e ∈ (uploadTrace program [demoRoot] kAB dat1 imm rnd1 killedState).1, e.inert = true) ∧
    -- … and a power loss after it returned loses the object
    (crash { keep := fun _ => [], junk := fun _ => [] }
      (run killedState (uploadTrace program [demoRoot] kAB dat1 imm rnd1 killedState).1)).object pAB = none := by
  decide

end C13
