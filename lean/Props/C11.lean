import Proofs.Checkpoint
/-!
# C11 — signed tree heads verify independently; the checkpoint verifier is strict

The theorems are about `Model/Checkpoint.lean` (+ the blob/STH codecs of `Model/Codec.lean`), the definitions
`drv ckpt` runs against the real `NewRFC6962Verifier`, `signTreeHead`, `openCheckpoint`, `ParseCheckpoint`, and whose
reader/builder schemas `Tie/C11.lean` compares with /repo's source on every run.

Cryptography is symbolic (DESIGN §5): the raw signature check is a parameter `cv`; `symCv`/`symSign` is the
instance "a signature is valid iff it is the pair (key, message)". Unforgeability is an explicit hypothesis
(`Unforgeable`), never an axiom, with a satisfiable instance next to it.
-/
namespace C11
open Codec Checkpoint

def name0 : Bytes := TilePath.ascii "example.com/log"
def root0 : Bytes := List.replicate 32 7
def key0 : PubKey := { kind := .ecdsa, id := [1, 2, 3] }
def wkey0 : PubKey := { kind := .other, id := [9] }
def cfg0 : Config := { name := name0, key := key0, keyHash := 1111, witnessKey := wkey0, witnessKeyHash := 2222 }
def text0 : Bytes := formatCheckpoint { origin := name0, n := 42, hash := root0, ext := [] }
def sth0 : Bytes := (sthInput 42 1700000000000 root0).getD []
def sig0 : NoteSig := { timestamp := 1700000000000, hashAlg := 4, sigAlg := 3, signature := symSign key0 sth0 }

/-- `C11.verify_iff`: the verify closure of `NewRFC6962Verifier(name, key)` accepts `(msg, sig)` iff
`msg` parses as a checkpoint for exactly this origin with no extension line, `sig` is exactly the encoding of
`(timestamp, hash_alg = 4, sig_alg, signature<0..2^16-1>)` with nothing after it, `sig_alg` is the one the key type
demands (RSA 1, ECDSA 3, nothing for other keys), and an independent CT verifier accepts `signature` over the RFC 6962
STH signature input rebuilt from (size, timestamp, root). -/
theorem verify_iff (cv : Crypto) (name : Bytes) (key : PubKey) (msg sig : Bytes) :
    verifier cv name key msg sig = true ↔
      ∃ c ts alg s, parseCheckpoint msg = some c ∧ c.origin = name ∧ c.ext = [] ∧
        sig = NoteSig.encode { timestamp := ts, hashAlg := 4, sigAlg := alg, signature := s } ∧
        ts < 18446744073709551616 ∧ s.length < 65536 ∧ algOf key.kind = some alg ∧
        independentVerify cv key c.n.toNat ts c.hash s = true := by
  rw [verifier_iff]
  constructor
  · intro ⟨c, x, a⟩
    obtain ⟨henc, hwf⟩ := parseNoteSig_eq_some.mp a.blob
    refine ⟨c, x.timestamp, x.sigAlg, x.signature, a.parses, a.origin, a.no_ext, ?_, hwf.timestamp_lt, hwf.signature_lt,
      a.sig_alg, a.verifies⟩
    rw [henc, ← a.hash_alg]
  · intro ⟨c, ts, alg, s, hp, ho, he, hsig, hts, hsl, ha, hi⟩
    have halg : alg < 256 := by
      cases hk : key.kind <;> rw [hk] at ha <;> simp [algOf] at ha <;> omega
    have hwf : NoteSig.WF { timestamp := ts, hashAlg := 4, sigAlg := alg, signature := s } :=
      ⟨hts, by show (4 : Nat) < 256; decide, halg, hsl⟩
    exact ⟨c, { timestamp := ts, hashAlg := 4, sigAlg := alg, signature := s },
      { parses := hp, origin := ho, no_ext := he, blob := parseNoteSig_eq_some.mpr ⟨hsig, hwf⟩, hash_alg := rfl,
        sig_alg := ha, verifies := hi }⟩

example : verifier symCv name0 key0 text0 sig0.encode = true := by decide +kernel
example : verifier symCv name0 { key0 with kind := .rsa } text0 sig0.encode = false := by decide +kernel
example : verifier symCv name0 { key0 with kind := .other } text0 sig0.encode = false := by decide +kernel

/-- `C11.sth_inj`: the STH signature input is injective in (tree size, timestamp, root hash), for sizes and timestamps
below 2^64: above, `toBE 8` truncates. -/
theorem sth_inj (n ts n' ts' : Nat) (r r' a : Bytes)
    (hn : n < 18446744073709551616) (ht : ts < 18446744073709551616)
    (hn' : n' < 18446744073709551616) (ht' : ts' < 18446744073709551616)
    (h : sthInput n ts r = some a) (h' : sthInput n' ts' r' = some a) : n = n' ∧ ts = ts' ∧ r = r' := by
  have hf (n ts : Nat) (r : Bytes) (hr : r.length = 32) : Fits sthSchema [[0], [1], toBE 8 ts, toBE 8 n, r] :=
    ⟨rfl, rfl, toBE_length _ _, toBE_length _ _, hr, trivial⟩
  obtain ⟨hr, he⟩ := sthInput_eq_some.mp h
  obtain ⟨hr', he'⟩ := sthInput_eq_some.mp h'
  obtain ⟨e, _⟩ := enc_inj (r := []) (r' := []) (hf n ts r hr) (hf n' ts' r' hr') (by rw [he, he'])
  simp only [List.cons.injEq, and_true, true_and] at e
  obtain ⟨ets, en, er⟩ := e
  exact ⟨toBE_inj (by simpa using hn) (by simpa using hn') en, toBE_inj (by simpa using ht) (by simpa using ht') ets, er⟩

example : sthInput 42 1700000000000 root0 ≠ sthInput 43 1700000000000 root0 := by decide +kernel
example : (sthInput 1 2 root0).map List.length = some 50 := by decide +kernel

/-- unforgeability, as a hypothesis: whatever the raw check accepts for `key` is a signature over the STH input of a
tuple (size, timestamp, root) the key holder signed -/
def Unforgeable (cv : Crypto) (key : PubKey) (signed : List (Nat × Nat × Bytes)) : Prop :=
  ∀ m s, cv key m s = true → ∃ x ∈ signed, sthInput x.1 x.2.1 x.2.2 = some m

/-- the signing-oracle instance: only the listed tuples were ever signed -/
def oracleCv (signed : List (Nat × Nat × Bytes)) : Crypto := fun key m s =>
  signed.any (fun x => sthInput x.1 x.2.1 x.2.2 == some m) && s == symSign key m

theorem oracleCv_unforgeable (key : PubKey) (signed : List (Nat × Nat × Bytes)) : Unforgeable (oracleCv signed) key signed := by
  intro m s h
  simp only [oracleCv, Bool.and_eq_true, List.any_eq_true, beq_iff_eq] at h
  obtain ⟨⟨x, hx, he⟩, _⟩ := h
  exact ⟨x, hx, he⟩

/-- `C11.tuple_binding`: if the verifier accepts `(msg, sig)` then `msg` is a checkpoint of this origin, the independent
verifier accepts the (size, timestamp, root) read from `msg` and `sig`, and — signatures being unforgeable (`hu`), the
signed sizes and timestamps below 2^64 (`hs`) — that tuple is one the log signed. Contrapositive: a `(msg, sig)` that
reads as a tuple the log did not sign is rejected, whatever else is done to the bytes. -/
theorem tuple_binding (cv : Crypto) (name : Bytes) (key : PubKey) (msg sig : Bytes)
    (signed : List (Nat × Nat × Bytes)) (hs : ∀ x ∈ signed, x.1 < 18446744073709551616 ∧ x.2.1 < 18446744073709551616)
    (hu : Unforgeable cv key signed) (h : verifier cv name key msg sig = true) :
    ∃ c x, parseCheckpoint msg = some c ∧ parseNoteSig sig = some x ∧ c.origin = name ∧ c.ext = [] ∧
      independentVerify cv key c.n.toNat x.timestamp c.hash x.signature = true ∧
      (c.n.toNat, x.timestamp, c.hash) ∈ signed := by
  obtain ⟨c, x, a⟩ := verifier_iff.mp h
  refine ⟨c, x, a.parses, a.blob, a.origin, a.no_ext, a.verifies, ?_⟩
  obtain ⟨sth, hsth, hi⟩ := independentVerify_eq_true.mp a.verifies
  obtain ⟨y, hy, hye⟩ := hu sth x.signature hi
  obtain ⟨b0, b1, _⟩ := parseCheckpoint_bounds a.parses
  have hwf := (parseNoteSig_eq_some.mp a.blob).2
  obtain ⟨e1, e2, e3⟩ := sth_inj _ _ _ _ _ _ _ (by omega) hwf.timestamp_lt (hs y hy).1 (hs y hy).2 hsth hye
  rw [show (c.n.toNat, x.timestamp, c.hash) = y from Prod.ext e1 (Prod.ext e2 e3)]
  exact hy

/-- the converse direction of "accepts only if the independent verifier accepts the same tuple": on a well-formed
message/signature pair the two verifiers agree -/
theorem agrees_with_independent (cv : Crypto) (name : Bytes) (key : PubKey) (c : Checkpoint) (msg : Bytes) (x : NoteSig)
    (hp : parseCheckpoint msg = some c) (ho : c.origin = name) (he : c.ext = []) (hwf : x.WF) (hh : x.hashAlg = 4)
    (ha : algOf key.kind = some x.sigAlg) :
    verifier cv name key msg x.encode = independentVerify cv key c.n.toNat x.timestamp c.hash x.signature :=
  verifier_encode cv name key c msg x hp ho he hwf hh ha

-- the unforgeability hypothesis is satisfiable, and the verifier accepts the signed tuple under it
example : Unforgeable (oracleCv [(42, 1700000000000, root0)]) key0 [(42, 1700000000000, root0)] := oracleCv_unforgeable _ _
example : verifier (oracleCv [(42, 1700000000000, root0)]) name0 key0 text0 sig0.encode = true := by decide +kernel
-- a different size, root or timestamp under the same signature is rejected
example : verifier (oracleCv [(42, 1700000000000, root0)]) name0 key0
    (formatCheckpoint { origin := name0, n := 43, hash := root0, ext := [] }) sig0.encode = false := by decide +kernel
example : verifier (oracleCv [(42, 1700000000000, root0)]) name0 key0 text0
    ({ sig0 with timestamp := 1700000000001 } : NoteSig).encode = false := by decide +kernel

/-- `C11.strict_trailing`: an accepted signature blob is rejected with anything appended. -/
theorem strict_trailing (cv : Crypto) (name : Bytes) (key : PubKey) (msg sig t : Bytes) (ht : t ≠ [])
    (h : verifier cv name key msg sig = true) : verifier cv name key msg (sig ++ t) = false := by
  obtain ⟨_, x, a⟩ := verifier_iff.mp h
  obtain ⟨rfl, hwf⟩ := parseNoteSig_eq_some.mp a.blob
  refine Bool.eq_false_iff.mpr fun h' => ?_
  obtain ⟨_, _, a'⟩ := verifier_iff.mp h'
  have hs' := a'.blob
  rw [parseNoteSig_encode x hwf t, if_neg ht] at hs'
  cases hs'

/-- `C11.strict_origin`: a checkpoint for another origin is rejected, whatever the signature. -/
theorem strict_origin (cv : Crypto) (name : Bytes) (key : PubKey) (msg sig : Bytes) (c : Checkpoint)
    (hp : parseCheckpoint msg = some c) (ho : c.origin ≠ name) : verifier cv name key msg sig = false :=
  Bool.eq_false_iff.mpr fun h =>
    let ⟨_, _, a⟩ := verifier_iff.mp h
    ho (Option.some.inj (hp.symm.trans a.parses) ▸ a.origin)

/-- `C11.strict_extension`: a checkpoint with an extension line is rejected, whatever the signature. -/
theorem strict_extension (cv : Crypto) (name : Bytes) (key : PubKey) (msg sig : Bytes) (c : Checkpoint)
    (hp : parseCheckpoint msg = some c) (he : c.ext ≠ []) : verifier cv name key msg sig = false :=
  Bool.eq_false_iff.mpr fun h =>
    let ⟨_, _, a⟩ := verifier_iff.mp h
    he (Option.some.inj (hp.symm.trans a.parses) ▸ a.no_ext)

/-- … and so is anything that is not a checkpoint. -/
theorem strict_unparsable (cv : Crypto) (name : Bytes) (key : PubKey) (msg sig : Bytes)
    (hp : parseCheckpoint msg = none) : verifier cv name key msg sig = false :=
  Bool.eq_false_iff.mpr fun h =>
    let ⟨_, _, a⟩ := verifier_iff.mp h
    nomatch hp.symm.trans a.parses

example : verifier symCv name0 key0 text0 (sig0.encode ++ [0]) = false := by decide +kernel
example : verifier symCv (name0 ++ [120]) key0 text0 sig0.encode = false := by decide +kernel
example : verifier symCv name0 key0 (text0 ++ TilePath.ascii "extension\n") sig0.encode = false := by decide +kernel
example : (parseCheckpoint (text0 ++ TilePath.ascii "extension\n")).map (·.ext) = some (TilePath.ascii "extension\n") := by decide +kernel
-- the code signs the TUPLE, not the text: a second spelling of the same root (non-canonical base64) is accepted
example : parseCheckpoint (TilePath.ascii "a\n1\nAAAAAAAAAAAAAAAAAAAAAAAAAAAAAAAAAAAAAAAAAAB=\n") =
    parseCheckpoint (TilePath.ascii "a\n1\nAAAAAAAAAAAAAAAAAAAAAAAAAAAAAAAAAAAAAAAAAAA=\n") := by decide +kernel

/-- `C11.sign_opens`: under `SignPre` — a log name of 1..255 bytes without newline, an ECDSA log key, distinct key hashes
for the two signers, a tree head with int64 size and time and a 32-byte root, an int64 cosignature time, at most 98
grease lines, and a key id of at most 1000 bytes (which only keeps the symbolic signature within the 16-bit length
prefix) — and with a clock not before the tree-head time: `signTreeHead` succeeds; the note text is the checkpoint of
(name, size, root); `openCheckpoint` (the RFC 6962 verifier for (name, key) and the cosignature verifier, through
`note.Open`) returns exactly that checkpoint and the tree-head time; the RFC 6962 signature line carries the time and
verifies; the ML-DSA cosignature line is present and verifies — whatever the order of the lines.
`Checkpoint.sign_opens_of_correct` is the same statement for any signature scheme that accepts what it signs. -/
theorem sign_opens (c : Config) (n time : Int) (hash : Bytes) (cosigTime : Nat) (grease : List SigLine) (swap : Bool)
    (now : Int) (pre : SignPre c n time hash cosigTime grease) (hnow : time ≤ now) :
    ∃ note, signTreeHead symCv symSign c n time hash cosigTime grease swap = some note ∧
      note.text = formatCheckpoint { origin := c.name, n := n, hash := hash, ext := [] } ∧
      openCheckpoint symCv c now note = .ok ({ origin := c.name, n := n, hash := hash, ext := [] }, time) ∧
      (∃ s ∈ note.sigs, s.name = c.name ∧ s.hash = c.keyHash ∧ sigTimestamp s.sig = some time ∧
        verifier symCv c.name c.key note.text s.sig = true) ∧
      (∃ s ∈ note.sigs, s.name = c.name ∧ s.hash = c.witnessKeyHash ∧
        cosigVerify symCv c.name c.witnessKey note.text s.sig = true) :=
  Checkpoint.sign_opens c n time hash cosigTime grease swap now pre hnow

example : SignPre cfg0 42 1700000000000 root0 1700000000 [{ name := name0, hash := 5, sig := [1, 2, 3, 4, 5] }] :=
  ⟨by decide, by decide, rfl, by decide, by decide, by decide, by decide, by decide, by decide, by decide⟩
example : (signTreeHead symCv symSign cfg0 42 1700000000000 root0 1700000000 [] true).map (·.sigs.length) = some 2 := by decide +kernel
-- a negative size or a clock before the tree-head time do not open
example : signTreeHead symCv symSign cfg0 (-1) 1700000000000 root0 1700000000 [] false = none := by decide +kernel
example : ((signTreeHead symCv symSign cfg0 42 1700000000000 root0 1700000000 [] false).map
    (openCheckpoint symCv cfg0 1699999999999)) = some (.error .future) := by decide +kernel

/-- `C11.injected_signer_guard`: `NewRFC6962InjectedSigner(...).Sign(msg)` returns a signature exactly when the verifier
for the same (name, key) accepts `timestamp ‖ the injected TreeHeadSignature bytes` for `msg`, and that is what it
returns. -/
theorem injected_signer_guard (cv : Crypto) (name : Bytes) (key : PubKey) (ths : Bytes) (ts : Int) (msg blob : Bytes) :
    injectedSign cv name key ths ts msg = some blob ↔
      blob = injectedBlob ts ths ∧ verifier cv name key msg blob = true := by
  unfold injectedSign
  simp only
  constructor
  · intro h
    split at h
    · rename_i hv
      simp only [Option.some.injEq] at h
      subst h
      exact ⟨rfl, hv⟩
    · cases h
  · intro ⟨h1, h2⟩
    subst h1
    rw [if_pos h2]

example : injectedSign symCv name0 key0 ((digitallySigned sig0.signature).getD []) 1700000000000 text0 = some sig0.encode := by decide +kernel
example : injectedSign symCv name0 key0 ((digitallySigned sig0.signature).getD []) 1700000000001 text0 = none := by decide +kernel
example : injectedSign symCv name0 key0 ((digitallySigned sig0.signature).getD [] ++ [0]) 1700000000000 text0 = none := by decide +kernel

end C11
