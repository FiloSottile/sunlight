import Proofs.Mirror
/-! C15 — A mirror cosignature implies a complete, correct, servable copy.

Everything here is about the transition system `Mirror.step` of `Model/Mirror.lean` (add-checkpoint =
the C14 model `Witness.addCheckpoint`; add-entries split into metadata / one package / commit as the
handler splits it; restart), for arbitrary hash functions `node`, `emptyHash`, `leaf` — SHA-256
collision freeness enters as the hypotheses `Merkle.NodeInj node` (interior hashing) and
`Mirror.LeafInj leaf` (record hashing). `Reachable` quantifies over every sequence of events: any
requests (any ranges, entries, proofs, tickets), truncation after any package, interleaving of any
number of requests at package granularity, restarts anywhere (dropping the requests in flight), and an
injected outcome of the lock reads, the bundle read of `completeTileFromBackend` and the two reads of
`ensureCutTiles` (ok / error), of every upload and of the `Lock.Replace` (ok, error after taking effect, error
without effect). The hash-tile reads of the overlay reader take none: a tile that is in the store is read.

"The log" is any entry list `E` whose record hashes open the latest tree head the witness recorded for
the origin (`Mirror.Truth`); by the C14 chain its prefixes open every recorded tree head. If the log
operator never produced such a list the statements are vacuous for that origin — there is then
nothing the copy could be compared with.

`Tie/C15.lean` ties the model to the current source of `witness.go`; `vh mirror` + `drv_mirror` run the
real handler against `Mirror.step` event by event and audit the object store at every write of the
mirror checkpoint. Outside the model: gzip and the byte framing of bundles / tile paths (harness
canonicaliser), real ML-DSA / XAES-256-GCM (symbolic), concurrency finer than one package (the
handler releases `l.mu` only at the modelled points, but uploads of two packages may overlap in real
time; sampled, not modelled), HTTP, the real lock and object backends (C05, C13). -/
namespace C15
open Mirror Witness Checkpoint Merkle

variable (node : Hash → Hash → Hash) (emptyHash : Hash) (leaf : Entry → Hash)

/-- **Whenever the mirror checkpoint — now or at any earlier time, returned with a 200, published or
only recorded — has size `N`, the store serves the whole size-`N` tree of the log**: every tile of
that tree (all full hash tiles and entry bundles and the exact right-edge partial ones, which is more
than the "or the full tile extending it" of the tile spec) is present with content equal to the
log's first `N` entries resp. their RFC 6962 subtree hashes, and the checkpoint's root is the root
of those `N` entries. -/
theorem C15_servable (inj : NodeInj node) (linj : LeafInj leaf) {c : MCfg} {st : MState}
    (hr : Reachable node emptyHash leaf c st) (E : List Entry) (hE : Truth node emptyHash leaf st E) :
    ∀ ck ∈ st.mhist,
      ck.1 ≤ E.length ∧ ck.2 = mth node emptyHash ((E.take ck.1).map leaf) ∧ Serves node emptyHash leaf st E ck.1 := by
  have hi := reachable_inv node emptyHash leaf inj linj hr
  intro ck hck
  obtain ⟨h1, h2⟩ := truth_mem node emptyHash leaf hi.ctl.wi.chain hE (hi.ctl.mh ck hck)
  exact ⟨h1, by rw [List.map_take]; exact h2, hi.serves hE hck⟩

/-- the mirror checkpoint in the lock store is the last element of that history; what was returned
with a 200 or published under `mirror/<origin hash>/checkpoint` is in it -/
theorem C15_recorded (inj : NodeInj node) (linj : LeafInj leaf) {c : MCfg} {st : MState}
    (hr : Reachable node emptyHash leaf c st) :
    st.mhist.getLast? = st.mlock.map (·.1) ∧ (∀ k ∈ st.released, k ∈ st.mhist) ∧ (∀ k, st.mpub = some k → k ∈ st.mhist) := by
  obtain ⟨hc, _⟩ := reachable_inv node emptyHash leaf inj linj hr
  exact ⟨hc.mlast, hc.rel, hc.pub⟩

/-- in particular, for the mirror checkpoint now in the lock store -/
theorem C15_servable_now (inj : NodeInj node) (linj : LeafInj leaf) {c : MCfg} {st : MState}
    (hr : Reachable node emptyHash leaf c st) (E : List Entry) (hE : Truth node emptyHash leaf st E)
    (ck : Nat × Hash) (serial : Nat) (hm : st.mlock = some (ck, serial)) :
    ck.2 = mth node emptyHash ((E.take ck.1).map leaf) ∧ Serves node emptyHash leaf st E ck.1 := by
  have hl := (C15_recorded node emptyHash leaf inj linj hr).1
  rw [hm] at hl
  exact (C15_servable node emptyHash leaf inj linj hr E hE ck (List.mem_of_getLast? hl)).2

/-- the tile store never lies about the log, whatever is in it (also beyond the mirror checkpoint) -/
theorem C15_store_true (inj : NodeInj node) (linj : LeafInj leaf) {c : MCfg} {st : MState}
    (hr : Reachable node emptyHash leaf c st) (E : List Entry) (hE : Truth node emptyHash leaf st E) :
    (∀ n w es, st.data n w = some es → es = bundleOf E n w ∧ 256 * n + w ≤ E.length) ∧
    (∀ l n w hs, st.hash l n w = some hs → hs = tileOf node emptyHash (E.map leaf) l n w) := by
  obtain ⟨_, hs⟩ := reachable_inv node emptyHash leaf inj linj hr
  exact ⟨hs.data E hE, fun l n w x hx => (hs.hash E hE l n w x hx).1⟩

/-- `mirror.N ≤ nextEntry ≤ pending.N`: the mirror checkpoint is never ahead of the upload frontier,
the frontier never ahead of the witness' pending checkpoint (the latest recorded tree head), and the
cached copy of the mirror checkpoint is the stored one. -/
theorem C15_bounds (inj : NodeInj node) (linj : LeafInj leaf) {c : MCfg} {st : MState}
    (hr : Reachable node emptyHash leaf c st) :
    (∀ x, st.next = some x → (mirrorCk emptyHash st.mlock).1 ≤ x) ∧
    (∀ kl, st.w.hist.getLast? = some kl →
      (∀ x, st.next = some x → x ≤ kl.1) ∧ (mirrorCk emptyHash st.mlock).1 ≤ kl.1 ∧ ∀ k ∈ st.mhist, k.1 ≤ kl.1) ∧
    (∀ k, ckOf emptyHash c.origin st.w.lock = some k → st.w.hist.getLast? = some k) ∧
    (∀ v, st.mcache = some v → v = st.mlock) := by
  obtain ⟨hc, _⟩ := reachable_inv node emptyHash leaf inj linj hr
  refine ⟨fun x hx => (hc.nx x hx).1, fun kl hkl => ?_, hc.wi.last, hc.mc⟩
  have hle : ∀ k ∈ st.mhist, k.1 ≤ kl.1 := fun k hk => mem_le_last hc.wi.chain (hc.mh k hk) hkl
  refine ⟨fun x hx => ?_, hc.mirrorCk_le hle, hle⟩
  obtain ⟨_, k, hk, hk'⟩ := hc.nx x hx
  exact Nat.le_trans hk' (mem_le_last hc.wi.chain hk hkl)

/-- **the mirror size never decreases**: every step leaves the mirror checkpoint and its history alone
or appends one tree head, which becomes the stored one and is at least as large as every earlier one -/
theorem C15_monotone (inj : NodeInj node) (linj : LeafInj leaf) {c : MCfg} {st : MState}
    (hr : Reachable node emptyHash leaf c st) (ev : Ev) (hadm : Admissible c st ev) :
    (mirrorCk emptyHash st.mlock).1 ≤ (mirrorCk emptyHash (step node emptyHash leaf c st ev).1.mlock).1 ∧
    ((step node emptyHash leaf c st ev).1.mhist = st.mhist ∨
      ∃ ck, (step node emptyHash leaf c st ev).1.mhist = st.mhist ++ [ck] ∧ ∀ k ∈ st.mhist, k.1 ≤ ck.1) := by
  have hi := reachable_inv node emptyHash leaf inj linj hr
  obtain ⟨hi', ⟨e1, e2⟩ | ⟨ck, n, e1, e2⟩⟩ := step_inv node emptyHash leaf inj linj ev hi hadm
  · exact ⟨by rw [e2]; exact Nat.le_refl _, Or.inl e1⟩
  · have hmono := hi'.ctl.mmono
    rw [e1, List.pairwise_append] at hmono
    have hall : ∀ k ∈ st.mhist, k.1 ≤ ck.1 := fun k hk => hmono.2.2 k hk ck (by simp)
    exact ⟨by rw [e2]; exact hi.ctl.mirrorCk_le hall, Or.inr ⟨ck, e1, hall⟩⟩

/-- **Tiles are written, and the frontier is advanced, only for entries whose subtree proof verified
against a tree head of the witness' chain, and such entries are the log's.** If a package step changes
the tile store or `nextEntry`, then the request's resolved tree head is in the C14 chain, the entries
of the tile (the client's, completed from the backend where the range starts mid-tile) passed
`CheckSubtree` against it, and for every log they are the log's entries `[tileStart, end)`
(`checkSubtree_sound` + the chain + collision freeness). The only other writer of tiles, `ensureCutTiles` in the
commit, writes a prefix of a bundle that is already in the store (`ensureCut_store`). -/
theorem C15_package_auth (inj : NodeInj node) (linj : LeafInj leaf) {c : MCfg} {st : MState}
    (hr : Reachable node emptyHash leaf c st) (rid : Nat) (inp : PkgIn) (fc fp : Bool) (outs : List Fault)
    (hch : (pkgStep node emptyHash leaf c rid inp fc fp outs st).1.data ≠ st.data ∨
           (pkgStep node emptyHash leaf c rid inp fc fp outs st).1.hash ≠ st.hash ∨
           (pkgStep node emptyHash leaf c rid inp fc fp outs st).1.next ≠ st.next) :
    ∃ r xs proof all, st.reqs rid = some r ∧ inp = .full xs proof ∧ r.ck ∈ st.w.hist ∧ r.i < r.numPackages ∧
      complete (st.setReq rid none) (r.rs + 256 * r.i) (min r.stop (r.rs + 256 * r.i + 256)) xs fc = some all ∧
      checkSubtree node proof.reverse r.ck.1 r.ck.2 (r.rs + 256 * r.i) (min r.stop (r.rs + 256 * r.i + 256))
        (mth node emptyHash (all.map leaf)) = true ∧
      ∀ E, Truth node emptyHash leaf st E →
        all = (E.drop (r.rs + 256 * r.i)).take (min r.stop (r.rs + 256 * r.i + 256) - (r.rs + 256 * r.i)) := by
  have hi := reachable_inv node emptyHash leaf inj linj hr
  rcases pkgStep_cases inj linj rid inp fc fp outs hi with ⟨k, hn⟩ | ⟨r, xs, proof, all, rfl, pa, _⟩
  · exact absurd hch (not_or.2 ⟨(· k.frame.data), not_or.2 ⟨(· k.frame.hash), (· hn)⟩⟩)
  · exact ⟨r, xs, proof, all, pa.req, rfl, (hi.ctl.rq rid r pa.req).ck, pa.lt, pa.complete, pa.checked,
      fun E hE => (pa.auth E hE).1⟩

/-- a package whose proof does not verify is answered 422 and writes nothing (`st0`: the state without the
request, as `pkgStep` passes it) -/
theorem C15_bad_proof_refused (rid : Nat) (r : Req) (xs all : List Entry) (proof : List Hash)
    (fc : Bool) (outs : List Fault) (ts stop : Nat) (st0 : MState)
    (hcomp : complete st0 ts stop xs fc = some all)
    (hbad : checkSubtree node proof.reverse r.ck.1 r.ck.2 ts stop (mth node emptyHash (all.map leaf)) = false) :
    pkgFull node emptyHash leaf rid r xs proof fc outs ts stop st0 = (st0, .err .invalidProof) := by
  unfold pkgFull
  rw [hcomp]
  simp [hbad]

/-- **An accepted ticket is a box sealed under this process' key for this mirror name and this
origin, and the checkpoint it carries is one the witness recorded (cosigned) for this origin** —
provided the submitted bytes respect at least one of the two primitives (`TicketAdm`): AEAD
unforgeability or unforgeability of the witness' ML-DSA cosignature. -/
theorem C15_ticket (inj : NodeInj node) (linj : LeafInj leaf) {c : MCfg} {st : MState}
    (hr : Reachable node emptyHash leaf c st) (t : TicketIn) (hadm : TicketAdm c st t) (p : PCk)
    (h : verifyTicket c st.key t = some p) :
    p.ck ∈ st.w.hist ∧
    ∃ tk, t = .box tk ∧ tk.key = st.key ∧ tk.mirrorName = c.mirrorName ∧ tk.origin = c.origin := by
  obtain ⟨⟨a, _⟩, b⟩ := verifyTicket_sound (reachable_inv node emptyHash leaf inj linj hr) hadm h
  exact ⟨a, b⟩

/-- tickets for another origin, another mirror name, or sealed by another process are refused;
a restart changes the key, so every ticket of the previous process is refused -/
theorem C15_ticket_binding (c : MCfg) (key : Nat) (tk : Ticket)
    (h : tk.key ≠ key ∨ tk.mirrorName ≠ c.mirrorName ∨ tk.origin ≠ c.origin) :
    verifyTicket c key (.box tk) = none := by
  simp only [verifyTicket]
  exact if_neg fun hc => h.elim (· hc.1) (·.elim (· hc.2.1) (· hc.2.2))

theorem C15_ticket_other_process (c : MCfg) (st : MState) (tk : Ticket) (h : tk.key ≤ st.key) :
    verifyTicket c (restart st).key (.box tk) = none :=
  C15_ticket_binding c _ tk (Or.inl (by simp only [restart]; omega))

/-- every ticket ever handed out carries a recorded tree head of this origin or nothing usable -/
theorem C15_issued (inj : NodeInj node) (linj : LeafInj leaf) {c : MCfg} {st : MState}
    (hr : Reachable node emptyHash leaf c st) :
    ∀ t ∈ st.issued, ∀ k, payloadCk c.origin t.payload = some k → k ∈ st.w.hist :=
  (reachable_inv node emptyHash leaf inj linj hr).ctl.tk

/-- **After a restart an upload from the mirror checkpoint is accepted**: with working lock reads, the
request `[mirror.N, pending.N)` without a ticket passes `processAddEntriesMetadata` (no conflict, no
error): it is installed against the pending checkpoint with `nextEntry = mirror.N`; and if the
mirror size is mid-tile, the entry bundle `completeTileFromBackend` will fetch (`mirror.N / 256`,
width `mirror.N % 256`) is in the store, with the log's entries. (That the whole multi-package upload
then ends in a 200 when nothing fails is checked by the engine's oracle, not proved.) -/
theorem C15_resume (inj : NodeInj node) (linj : LeafInj leaf) {c : MCfg} {st : MState}
    (hr : Reachable node emptyHash leaf c st) (hk : c.known = true) (hm : c.mirrored = true)
    (note : Note) (serial : Nat) (hl : st.w.lock = some (note, serial)) (k : Nat × Hash)
    (hopen : openStored emptyHash c.cfg c.origin st.w.lock = some k) (rid : Nat) :
    let m := mirrorCk emptyHash st.mlock
    let q : MetaReq := { hdr := .ok, start := m.1, stop := k.1, ticket := .none }
    let r := metadata emptyHash c rid q true true (restart st)
    r.2 = .cont ∧ r.1.next = some m.1 ∧
    r.1.reqs rid = some { ck := k, payload := .pend note serial, start := m.1, stop := k.1, i := 0, ov := [] } ∧
    (m.1 % 256 ≠ 0 → ∀ E, Truth node emptyHash leaf st E → r.1.data (m.1 / 256) (m.1 % 256) = some (bundleOf E (m.1 / 256) (m.1 % 256))) := by
  obtain ⟨hc, hs⟩ := reachable_inv node emptyHash leaf inj linj hr
  intro m q r
  have hkl : st.w.hist.getLast? = some k := hc.wi.last k (openStored_ckOf hopen)
  have hmk : m.1 ≤ k.1 := hc.mirrorCk_le fun k' hk' => mem_le_last hc.wi.chain (hc.mh k' hk') hkl
  -- both lock reads miss the caches of the new process
  obtain ⟨S, hrun, hS1, hS2⟩ := metadata_fresh (st := restart st) hk hm
    (by simp [restart, OState.restart, OState.setCache]) rfl rfl (rid := rid) rfl hl hopen hmk
  rw [show r = _ from hrun]
  refine ⟨rfl, hS1, if_pos rfl, fun hne E hE => ?_⟩
  have hmem : m ∈ st.mhist :=
    hc.mirrorCk_mem fun hml => hne (by show (mirrorCk emptyHash st.mlock).1 % 256 = 0; rw [hml]; rfl)
  show S.data (m.1 / 256) (m.1 % 256) = _
  rw [hS2]
  exact hs.data_eq hE (hs.h2d _ _ (hs.cut m hmem hne))

theorem C15_status_codes :
    EClass.unknownLog.status = 404 ∧ EClass.notMirrored.status = 403 ∧ EClass.noPending.status = 422 ∧
    EClass.invalidProof.status = 422 ∧ EClass.missingBody.status = 400 ∧ EClass.badRequest.status = 400 ∧
    EClass.internal.status = 500 ∧ EClass.ctype.status = 415 := by decide

/-- `commitRecord` answers 200 only if its compare-and-swap and its upload took effect and returned success;
the tree head it names is then the stored mirror checkpoint and the published one. (No other function of
`Model/Mirror.lean` builds a `Resp.ok`: by inspection, not by a theorem.) -/
theorem C15_ok_only_recorded (r : Req) (rep up : Fault) (st : MState) (ck : Nat × Hash)
    (h : (commitRecord r rep up st).2 = .ok ck) :
    ck = r.ck ∧ rep = .ok ∧ up = .ok ∧ (∃ n, (commitRecord r rep up st).1.mlock = some (r.ck, n)) ∧
    (commitRecord r rep up st).1.mpub = some r.ck ∧ (commitRecord r rep up st).1.mhist = st.mhist ++ [r.ck] := by
  unfold commitRecord at h ⊢
  dsimp only at h ⊢
  split at h
  · cases h
  split at h
  · cases h
  rename_i hok
  split at h
  · cases h
  rename_i huok
  simp only [Bool.not_eq_true', Bool.not_eq_false, Bool.and_eq_true, decide_eq_true_eq] at hok huok
  cases Fault.eq_ok hok.2
  cases Fault.eq_ok huok
  cases h
  simp [hok.1, Fault.applied, Fault.isOk]

/-- the commit answers 200 only for a tree head not below the mirror checkpoint in hand and not beyond the
upload frontier, and after `ensureCutTiles` succeeded -/
theorem C15_commit_guards (c : MCfg) (r : Req) (fp fh fw : Bool) (ud uh rep up : Fault) (mir : PCk) (next : Nat)
    (st : MState) (ck : Nat × Hash)
    (h : (commitDecide emptyHash leaf c r fp fh fw ud uh rep up mir next st).2 = .ok ck) :
    r.ck.1 ≤ next ∧ mir.ck.1 ≤ r.ck.1 ∧ (ensureCut leaf r.ck.1 next fh fw ud uh st).2 = true := by
  revert h
  fun_cases commitDecide emptyHash leaf c r fp fh fw ud uh rep up mir next st
  all_goals intro h
  · cases h
  · cases h
  · cases h
  · cases h
  · rename_i heq
    exact ⟨by omega, by omega, by rw [heq]⟩

/-! ### non-vacuity -/
namespace Example

/-- an injective interior hash on byte strings: the length of the left child in unary, then both children -/
def pairNode (a b : Hash) : Hash := List.replicate a.length 1 ++ 0 :: (a ++ b)

theorem pairNode_inj : NodeInj pairNode := by
  intro a b c d h
  obtain ⟨hl, hx⟩ := replicate_sep h
  exact List.append_inj hx hl

/-- a 32-byte "hash" for executable examples (not injective; the examples only run the machine). `pairNode`
cannot carry a run: the parent of two 32-byte roots is longer than 32 bytes, and `parseCheckpoint` demands 32. -/
def nodeE (a b : Hash) : Hash := a.take 16 ++ b.take 16
def emptyE : Hash := List.replicate 32 0

def k1 : VKey := ⟨[119], 1, 0⟩
def k2 : VKey := ⟨[119], 2, 1⟩
def logKey : VKey := ⟨[111], 3, 2⟩
def text (n : Int) (root : Hash) : Bytes := formatCheckpoint { origin := [111], n := n, hash := root, ext := [] }
def signedBy (k : VKey) (t : Bytes) : NoteForm := .wellformed { text := t, sigs := [k.sign t] }

/-- an injective record hash (the entry itself, framed) -/
def leafI (e : Entry) : Hash := 0 :: e

theorem leafI_inj : LeafInj leafI := by
  intro a b h
  simpa [leafI] using h

/-- the collision-freeness hypotheses are satisfiable together -/
example : NodeInj pairNode ∧ LeafInj leafI := ⟨pairNode_inj, leafI_inj⟩

/-- a 32-byte record "hash" for the executable examples -/
def leafE (e : Entry) : Hash := (e ++ List.replicate 32 7).take 32

def mk2 : VKey := ⟨[109], 4, 3⟩
def cfgM : Cfg := { k1 := k1, k2 := k2, mirror := some mk2, logs := [⟨[111], [logKey]⟩] }
def mc : MCfg := { cfg := cfgM, origin := [111], mirrorFlag := true }

def e0 : Entry := [1, 2, 3]
def e1 : Entry := []
def root2 : Hash := nodeE (leafE e0) (leafE e1)

/-- the log signs a checkpoint of size 2 over the entries `e0, e1`; the witness records it -/
def envA : Env :=
  { cfg := cfgM, inst := 0,
    req := { body := .ok, old := 0, proof := [], note := signedBy logKey (text 2 root2) },
    fetchOut := .ok, replaceOut := .ok, uploadOut := .ok }

def s0 : MState := MState.init emptyE false
def s1 : MState := (step nodeE emptyE leafE mc s0 (.addCk envA)).1
/-- add-entries `[0, 2)`: metadata -/
def evM : Ev := .mdata 7 { hdr := .ok, start := 0, stop := 2, ticket := .none } true true
def s2 : MState := (step nodeE emptyE leafE mc s1 evM).1
/-- the one package: both entries, empty subtree proof (the subtree is the whole tree) -/
def evP : Ev := .pkg 7 (.full [e0, e1] []) true true []
def s3 : MState := (step nodeE emptyE leafE mc s2 evP).1
def evC : Ev := .commit 7 true true true true .ok .ok .ok .ok
def s4 : MState := (step nodeE emptyE leafE mc s3 evC).1

/-- the run is a run of the transition system (no ticket is presented, so every event is admissible) -/
theorem s4_reachable : Reachable nodeE emptyE leafE mc s4 :=
  .step s3 evC (.step s2 evP (.step s1 evM (.step s0 (.addCk envA) (.init false) rfl) trivial) trivial) trivial

set_option maxRecDepth 100000 in
/-- … it ends with a 200 for the size-2 tree head, recorded and published, with both tiles of the
size-2 tree in the store: the entry bundle and the level-0 hash tile -/
example :
    (step nodeE emptyE leafE mc s3 evC).2 = .ok (2, root2) ∧
    s4.mlock = some ((2, root2), 0) ∧ s4.mhist = [(2, root2)] ∧ s4.mpub = some (2, root2) ∧ s4.next = some 2 ∧
    s4.data 0 2 = some [e0, e1] ∧ s4.hash 0 0 2 = some [leafE e0, leafE e1] ∧
    s4.w.hist = [(0, emptyE), (2, root2)] := by decide +kernel

set_option maxRecDepth 100000 in
/-- a package with a wrong entry is refused with 422 and writes nothing -/
example :
    (step nodeE emptyE leafE mc s2 (.pkg 7 (.full [e0, [9]] []) true true [])).2 = .err .invalidProof ∧
    (step nodeE emptyE leafE mc s2 (.pkg 7 (.full [e0, [9]] []) true true [])).1.data 0 2 = none := by decide +kernel

/-- the ticket the witness hands out in state `s1`: the pending checkpoint, sealed for this mirror and origin -/
def tk0 : Ticket := { key := 0, mirrorName := [109], origin := [111], payload := payloadOf s1.w.lock }

set_option maxRecDepth 100000 in
/-- a request for a range that does not end at a known checkpoint gets a 409 with that ticket; the
ticket is accepted by the process that issued it and refused by the next one and for another origin -/
example :
    (step nodeE emptyE leafE mc s1 (.mdata 8 { hdr := .ok, start := 0, stop := 1, ticket := .none } true true)).2 =
        .info 409 2 0 tk0 ∧
    (verifyTicket mc 0 (.box tk0)).map (·.ck) = some (2, root2) ∧
    verifyTicket mc 1 (.box tk0) = none ∧
    verifyTicket { mc with origin := [112] } 0 (.box tk0) = none := by decide +kernel

end Example
end C15
