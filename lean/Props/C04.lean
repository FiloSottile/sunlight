import Proofs.SeqDemo
import Proofs.SeqRecover
import Model.S3Upload
/-! C04 — Object storage is always a complete, exact rendering of the leaf sequence.

Exactness is enforced by the acceptor itself: `Seq.step` accepts a tile / bundle / checkpoint upload
only if its abstract content is the slice of the round's new tree prescribed for that key
(`o = .slice (t.slice rd.new.leaves)`), and the driver accepts the bytes only if they are the Static CT
rendering of that slice (Model/SeqRender.lean, compared by SHA-256 and length on every upload).
Theorems here: ordering (all tile uploads before the checkpoint upload), immutability, discards; completeness of
every published checkpoint (`Inv3`) and exactness of every tile object (`Inv4`) without tampering; the contract of
the production backend's `Upload`. -/
namespace C04
open Seq

/-- The checkpoint of a round is uploaded only after every tile upload of its staged bundle has
    returned successfully (none failed, none still in flight). -/
theorem C04_tiles_before_checkpoint (s s' : Sys) (i : Nat) (imm : Bool) (o : Obj) (r : Res) (rd : Round)
    (hph : (s.insts i).phase = .round rd) (h : step s (.upload i .ckpt imm o r) = some s') :
    o = .ck rd.new ∧ (rd.pc = .ckpt ∨ ∃ done, rd.pc = .tiles done false ∧ ∀ t ∈ rd.bundle, t ∈ done) := by
  cases step_sound h with
  | uploadCkpt hph' hready | uploadCkptEmpty hph' hready | uploadCkptFail hph' _ hready =>
    cases hph.symm.trans hph'; exact ⟨rfl, hready⟩
  | uploadCreateCkpt hph' | uploadCreateCkptFail hph' => cases hph.symm.trans hph'

/-- A staged bundle holds exactly the tiles a growth from the old to the new size needs
    (`newTilesList`), each with the slice of the new tree that its coordinate covers. -/
theorem C04_bundle_exact (o : Nat) (tr : Tree) (items : List (TileId × Tree)) (h : bundleOK o tr items = true) :
    (∀ p ∈ items, NewAt o tr.length p.1 = true ∧ p.2 = p.1.slice tr) ∧
    (∀ t ∈ newTilesList o tr.length, t ∈ items.map (·.1)) := by
  refine ⟨fun p hp => ⟨bundle_newAt h hp, bundle_slice h hp⟩, fun t ht => ?_⟩
  simp only [bundleOK, Bool.and_eq_true, List.all_eq_true] at h
  simpa using h.1.2 t ht

/-- A tile upload of a round is accepted only with the prescribed content for its coordinate. -/
theorem C04_tile_exact (s s' : Sys) (i : Nat) (t : TileId) (imm : Bool) (o : Obj) (r : Res) (rd : Round)
    (hph : (s.insts i).phase = .round rd) (h : step s (.upload i (.tile t) imm o r) = some s') :
    imm = true ∧ o = .slice (t.slice rd.new.leaves) ∧ t ∈ rd.bundle := by
  cases step_sound h with
  | uploadTile hph' _ hmem => cases hph.symm.trans hph'; exact ⟨rfl, rfl, hmem⟩
  | uploadApplyLast hph' | uploadApply hph' => cases hph.symm.trans hph'

/-- Immutable objects are never rewritten with different bytes: an accepted upload leaves an
    existing immutable object's content unchanged. -/
theorem C04_immutable_once (st st' : Key → Option (Obj × Bool)) (k : Key) (imm : Bool) (o old : Obj) (r : Res)
    (hold : st k = some (old, true)) (h : storeUpload st k imm o r = some st') :
    ∃ f, st' k = some (old, f) := by
  rcases storeUpload_cases h with ⟨_, rfl, hsame⟩ | ⟨_, rfl⟩
  · exact ⟨imm, by rw [hsame old hold]; simp [updK]⟩
  · exact ⟨true, hold⟩

/-- Nothing but staging bundles is ever discarded. -/
theorem C04_only_staging_discarded {s : Sys} (r : Reachable s) : ∀ k ∈ s.discarded, ∃ t, k = .staging t :=
  (inv2_reachable r).disc

/-- **Completeness (I3).** At every moment of every run without tampering — after each individual storage
    operation, whatever faults, crashes, restarts and interleavings of instances happened — the
    checkpoint object in storage is fully backed: every hash, data and names tile the Static CT layout
    needs for its tree (full, or partial at the right edge; all levels a 64-bit tree can have) is in the
    store, immutable, with exactly the content prescribed for that tree's leaves. -/
theorem C04_complete_at_publish {s : Sys} (r : Reachable s) (ht : s.tampered = false) (c : Ck) (imm : Bool)
    (hc : s.store .ckpt = some (.ck c, imm)) (t : TileId) (hreq : Req c.leaves.length t = true)
    (hl : t.kind.level < 8) : s.store (.tile t) = some (.slice (t.slice c.leaves), true) := by
  have h3 := inv3_reachable r ht
  exact h3.pub c (h3.ckpt c imm hc) t hreq hl

/-- the same for every checkpoint that was ever published (they all stay completely rendered) -/
theorem C04_published_stay_complete {s : Sys} (r : Reachable s) (ht : s.tampered = false) :
    ∀ c ∈ s.pubHist, Complete s.store c.leaves :=
  (inv3_reachable r ht).pub

example : ∃ s, Reachable s ∧ s.tampered = false ∧ ∃ c imm, s.store .ckpt = some (.ck c, imm) ∧ c.leaves.length = 1 := by
  obtain ⟨s, h, ht, hc, _⟩ := Seq.Demo.demo_untampered
  exact ⟨s, ⟨0, _, h⟩, ht, _, _, hc, rfl⟩

/-- A round's new leaves all carry the round's timestamp, which is the new tree head's (`clockRound`). -/
theorem C04_leaf_times (slots : List Slot) (ts : Nat) : ∀ l ∈ leavesOf slots ts, l.ts = ts := by
  intro l hl
  simp only [leavesOf, List.mem_map] at hl
  obtain ⟨sl, _, rfl⟩ := hl
  rfl

example : bundleOK 0 [⟨7, 7, 105⟩]
    [(⟨.data, 0, 1⟩, [⟨7, 7, 105⟩]), (⟨.names, 0, 1⟩, [⟨7, 7, 105⟩]), (⟨.hash 0, 0, 1⟩, [⟨7, 7, 105⟩])] = true := by decide

/-- **Exactness of every tile object.** At every moment of every run without tampering, every tile
    object in the store — whoever wrote it: a round, or a restart re-applying a staged bundle — is
    immutable and is exactly the rendering, for its coordinate, of a tree committed in the lock store
    that covers the tile; all committed trees are prefixes of the newest one, so it is the rendering
    of the lock checkpoint's tree too (`C04_tiles_render_lock_tree`). -/
theorem C04_tiles_only_committed {s : Sys} (r : Reachable s) (ht : s.tampered = false) :
    ∀ t o imm, s.store (.tile t) = some (o, imm) →
      imm = true ∧ ∃ c ∈ s.lockHist, t.hi ≤ c.leaves.length ∧ o = .slice (t.slice c.leaves) :=
  (inv4_reachable r ht).tiles

/-- every tile object is the rendering of the lock checkpoint's tree at its coordinate -/
theorem C04_tiles_render_lock_tree {s : Sys} (r : Reachable s) (ht : s.tampered = false) (c : Ck)
    (hl : s.lock = some c) :
    ∀ t o imm, s.store (.tile t) = some (o, imm) →
      imm = true ∧ t.hi ≤ c.leaves.length ∧ o = .slice (t.slice c.leaves) := by
  intro t o imm hs
  obtain ⟨himm, c', hc', hhi, ho⟩ := (inv4_reachable r ht).tiles t o imm hs
  have hpre := (lock_extends_hist (inv_reachable r) hl c' hc').1
  exact ⟨himm, Nat.le_trans hhi hpre.length_le, by rw [ho, slice_prefix hpre hhi]⟩

/-- the checkpoint object is always a mutable checkpoint, present once a checkpoint has been published;
    staging objects are immutable non-empty bundles; there are no legacy staging objects -/
theorem C04_object_shapes {s : Sys} (r : Reachable s) (ht : s.tampered = false) :
    (∀ o imm, s.store .ckpt = some (o, imm) → imm = false ∧ ∃ c, o = .ck c) ∧
    (s.pubHist ≠ [] → ∃ c imm, s.store .ckpt = some (.ck c, imm)) ∧
    (∀ tr o imm, s.store (.staging tr) = some (o, imm) → imm = true ∧ ∃ items, o = .bundle items ∧ items ≠ []) ∧
    (∀ t, s.store (.legacyStaging t) = none) :=
  let h4 := inv4_reachable r ht
  ⟨h4.ckShape, h4.ckSome, h4.stagedNe, h4.legacy⟩

end C04

/-! ### The production backend keeps the contract the model assumes (S3Backend.Upload) -/
namespace C04
open S3Upload

/-- **Upload returned nil ⇒ stored.** Whatever the two PutObject calls of a hedged upload did, in whatever order their
    requests reached S3, and whether or not the hedge's result was the one reported: if `Upload` returns nil then one of
    the requests was stored, so the bucket holds the uploaded bytes under the key — for every prior content.
    (Assumes only that a PutObject call returning nil had a request answered 200.) -/
theorem C04_s3_upload_ok_means_stored (main : Call) (started reported : Option Call) (all : List Req) (pre : Bool)
    (hm : main.Honest) (hh : ∀ h, started = some h → h.Honest)
    (hrep : ∀ h, reported = some h → started = some h)      -- a reported hedge result is the started hedge's
    (hall : IsAllReqs main started all)
    (hok : uploadOk main reported = true) : heldAfter pre all = .data := by
  have hst : Req.stored ∈ all := by
    cases reported with
    | none => exact (hall _).2 (.inl (hm hok))
    | some h => exact (hall _).2 (.inr ⟨h, hrep h rfl, hh h (hrep h rfl) hok⟩)
  simp [heldAfter, hst]

/-- **The acceptor refuses nothing the code can do.** Under the two SDK assumptions every return value of the hedged
    upload is `admissible` for the requests the server saw — so a driver mismatch on this engine means the decision in
    `Upload` changed (or the SDK assumptions do not hold), never that the schedule was unlucky. -/
theorem C04_s3_upload_is_admissible (main : Call) (started reported : Option Call) (all : List Req) (cancelled : Bool)
    (hm : main.Honest) (hh : ∀ h, started = some h → h.Honest)
    (fm : main.Faithful cancelled) (fh : ∀ h, started = some h → h.Faithful cancelled)
    (hrep : ∀ h, reported = some h → started = some h)
    (hall : IsAllReqs main started all) :
    admissible all cancelled (uploadOk main reported) = true := by
  cases hok : uploadOk main reported with
  | true =>
    have hst : Req.stored ∈ all := by
      cases reported with
      | none => exact (hall _).2 (.inl (hm hok))
      | some h => exact (hall _).2 (.inr ⟨h, hrep h rfl, hh h (hrep h rfl) hok⟩)
    simp [admissible, hst]
  | false =>
    have hbad : cancelled = true ∨ ∃ r ∈ all, r ≠ Req.stored := by
      cases reported with
      | none =>
        rcases fm hok with hc | ⟨r, hr, hne⟩
        · exact .inl hc
        · exact .inr ⟨r, (hall r).2 (.inl hr), hne⟩
      | some h =>
        rcases fh h (hrep h rfl) hok with hc | ⟨r, hr, hne⟩
        · exact .inl hc
        · exact .inr ⟨r, (hall r).2 (.inr ⟨h, hrep h rfl, hr⟩), hne⟩
    rcases hbad with hc | ⟨r, hr, hne⟩
    · simp [admissible, hc]
    · have : all.any (fun x => x != Req.stored) = true := List.any_eq_true.2 ⟨r, hr, by simpa using hne⟩
      simp [admissible, this]

/-- the observable form the driver evaluates: an admissible nil return leaves the data in the bucket -/
theorem C04_s3_admissible_ok_stored (reqs : List Req) (cancelled pre : Bool)
    (h : admissible reqs cancelled true = true) : heldAfter pre reqs = .data := by
  simp only [admissible, if_true] at h
  unfold heldAfter
  rw [if_pos h]

/-- … and a caller that hung up (context cancelled) is never by itself a reason to report success: with no stored request
    no return of nil is admissible (the change that maps `context.Canceled` to nil is refused here) -/
theorem C04_s3_cancel_is_not_success (reqs : List Req) (h : Req.stored ∉ reqs) : admissible reqs true true = false := by
  simp [admissible, h]

/-- when nothing is stored the bucket keeps what it had -/
theorem C04_s3_failed_upload_keeps_prior (reqs : List Req) (pre : Bool) (h : Req.stored ∉ reqs) :
    heldAfter pre reqs = (if pre then .pre else .none) := by
  simp [heldAfter, h]

-- non-vacuity: a hedged upload whose main request is aborted by the winning hedge
example : uploadOk ⟨false, [.aborted]⟩ (some ⟨true, [.stored]⟩) = true ∧ heldAfter true [.aborted, .stored] = .data := by decide
example : admissible [.aborted] true false = true ∧ admissible [.aborted] true true = false := by decide

end C04
