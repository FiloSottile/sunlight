import Proofs.SeqInv2
import Proofs.TileAuth
/-! C08 — Tampered object storage can stop the log but never make it sign a fork.
The model's `tamper k o` event replaces or deletes ANY object at ANY time (`o` arbitrary, including
objects that are valid renderings of other trees and previously signed checkpoints). `Reachable`
therefore already quantifies over every tampering of any subset of stored objects, combined with
restarts and further sequencing; the lock store is not tamperable (it is the trusted root). -/
namespace C08
open Seq

/-- tampering is always enabled and touches nothing but the object store -/
theorem C08_tamper_enabled (s : Sys) (k : Key) (o : Option Obj) :
    ∃ s', step s (.tamper k o) = some s' ∧ s'.lock = s.lock ∧ s'.lockHist = s.lockHist ∧ s'.insts = s.insts :=
  ⟨_, rfl, rfl, rfl, rfl⟩

/-- Whatever is done to object storage, every checkpoint the log ever signs-and-commits extends
    every earlier one: the lock history stays one chain. -/
theorem C08_chain_under_tamper {s : Sys} (r : Reachable s) :
    s.lockHist.Pairwise (fun newer older => older.leaves <+: newer.leaves ∧ older.time < newer.time) :=
  chain_pairwise _ (inv_reachable r).chain

/-- The server continues only from exactly the tree committed in the lock store: an instance becomes
    ready only on the checkpoint it fetched from the lock store, and only when every right-edge
    object it consulted was the rendering of that very tree (a tampered, missing or foreign object
    sets the `bad` flag and the load is refused). -/
theorem C08_load_sound {s s' : Sys} (r : Reachable s) (i : Nat) (c : Ck)
    (h : step s (.loaded i c) = some s') :
    c ∈ s.lockHist ∧ (s'.insts i).tree = c ∧ (s.insts i).phase = .loading (.edge c false) := by
  obtain ⟨hph, ht⟩ := loaded_sound s s' i c h
  have := (inv_reachable r).inst i
  simp only [InstOK, hph, LoadOK] at this
  exact ⟨this, ht, hph⟩

/-- once an edge object was missing, unreadable or not the rendering of the lock checkpoint's tree,
    the load stays poisoned (the flag only goes from false to true), so it can only end in a refusal -/
theorem C08_bad_edge_sticks (s s' : Sys) (i : Nat) (c : Ck) (t : TileId) (res : FRes Obj)
    (hph : (s.insts i).phase = .loading (.edge c true))
    (h : step s (.fetch i (.tile t) res) = some s') :
    (s'.insts i).phase = .loading (.edge c true) := by
  cases step_sound h with
  | fetchEdge hph' hbad => cases hph.symm.trans hph'; rw [setPhase_phase, hbad rfl]

/-- a load whose flag is set cannot report success -/
theorem C08_poisoned_load_refused (s : Sys) (i : Nat) (c c' : Ck)
    (hph : (s.insts i).phase = .loading (.edge c true)) : step s (.loaded i c') = none := by
  simp [step, hph]

/-- Any checkpoint signed afterwards extends the committed tree by precisely the entries of the pool
    being sequenced (one leaf per admitted submission), never by anything read from storage. -/
theorem C08_extends_by_pool (s s' : Sys) (i v : Nat) (rd : Round)
    (hph : (s.insts i).phase = .round rd) (hpc : rd.pc = .clock) (hv : (s.insts i).tree.time < v)
    (h : step s (.clock i v) = some s') :
    ∃ rd', (s'.insts i).phase = .round rd' ∧
      rd'.new = ⟨(s.insts i).tree.leaves ++ leavesOf rd.slots v, v⟩ := by
  obtain ⟨rd', h1, _, h3⟩ := round_new_tree s s' i v rd hph hpc hv h
  exact ⟨rd', h1, h3⟩

/-- published checkpoints stay a subset of committed ones under tampering -/
theorem C08_pub_committed {s : Sys} (r : Reachable s) : ∀ c ∈ s.pubHist, c ∈ s.lockHist :=
  (inv_reachable r).pub

example : ∃ s', step (init 0) (.tamper .ckpt (some (.blob 1))) = some s' := ⟨_, rfl⟩

/-- **Hash level.** The right-edge hash tiles `LoadLog` keeps in memory (and computes every later root from) were read
    through `tlog.TileHashReader` bound to the LOCK checkpoint's root: whatever bytes object storage served for them,
    if they have the widths the size prescribes and recombine to that root they are the authentic tiles of the
    committed tree, at every level — for every tree size (`Proofs/TileAuth.lean`, from `NodeInj` alone). A tampered,
    swapped, truncated or rolled-back hash tile therefore either fails the load or is not tampered at all. -/
theorem C08_edge_tiles_authentic {H : Type} (node : H → H → H) (empty : H) (inj : Merkle.NodeInj node)
    (B : List H) (e : Nat → List H) (T : Nat) (hn : B ≠ []) (hT : B.length < 256 ^ T)
    (hw : ∀ j, j < T → (e j).length = TileAuth.edgeWidth B.length j)
    (hroot : TileAuth.edgeF node empty e T = some (Merkle.mth node empty B)) :
    ∀ j, j < T → e j = TileAuth.tileOf node empty B j (B.length / 256 ^ j / 256) (TileAuth.edgeWidth B.length j) :=
  TileAuth.edge_sound node empty inj B e T hn hT hw hroot

/-- non-vacuity, for every non-empty tree: the authentic edge tiles do recombine to the root -/
theorem C08_edge_tiles_complete {H : Type} (node : H → H → H) (empty : H) (B : List H) (T : Nat)
    (hn : B ≠ []) (hT : B.length < 256 ^ T) :
    TileAuth.edgeF node empty (fun j => TileAuth.tileOf node empty B j (B.length / 256 ^ j / 256) (TileAuth.edgeWidth B.length j)) T =
      some (Merkle.mth node empty B) :=
  TileAuth.edge_complete node empty B T hn hT

end C08
