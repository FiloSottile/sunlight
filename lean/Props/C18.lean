import Proofs.Aftersun
/-! C18 — Garbage collection removes only superseded partial tiles.

All statements are about `Aftersun.cleanRoot` (one log or mirror directory, `Model/Aftersun.lean`), for
**every** directory oracle `fs` (arbitrary, even inconsistent, contents), every published size, every
recursion depth, and both tile-path parsers the tool is run with (`sunlight.ParseTilePath` for logs,
`torchwood.ParseTilePath` for mirror directories). `C18_main` lifts them to the whole run.

Outside the model: that the size handed to `cleanDir` is the one of the signature-verified published
checkpoint (`logSize`/`mirroredLogSize`: exercised by `vh aftersun`), the file-system calls themselves,
and that reads during the walk see the initial state (the tool lists before it deletes and deletes only
inside `*.p` directories; exercised). -/
namespace C18
open Aftersun TilePath

/-- **Only superseded partial tiles.** A deleted file is `dir/full.p/W`: it parses as a partial tile
(1 ≤ W < 256); `full` is listed in the same directory as `full.p` and parses as the *full* tile with the same
level and index; the file that `overrideImmutable` independently stats (the text before the first
`".p/"`) is that same sibling, a non-empty regular file; and the tile index is strictly left of the
right edge of the published tree: level ≤ 6 and `N < size / 256^(level+1)` (data/names/entries tiles
count as level 0; a tile above level 6 spans ≥ 2^64 leaves and is never deleted). -/
theorem C18_only_partials {parse : Bytes → Option Tile} (hp : IsToolParser parse) (fs : FS) (size fuel : Nat)
    (p : Bytes) (h : p ∈ filesOf (cleanRoot fs parse size fuel).1) :
    ∃ (dir full : Bytes) (t : Tile) (entries : List Ent) (sib : Ent),
      p = join (join dir (full ++ dotP)) (fmtInt t.W) ∧
      parse p = some t ∧ 1 ≤ t.W ∧ t.W < 256 ∧
      fs.readDir dir = some entries ∧ full ∈ entries.map (·.name) ∧
      parse (join dir full) = some { t with W := 256 } ∧
      cutSub dotPSlash p = some (join dir full, fmtInt t.W) ∧
      fs.stat (join dir full) = some sib ∧ sib.isDir = false ∧ 0 < sib.size ∧
      t.L ≤ 6 ∧ t.N < ((size / 256 ^ (lvl t + 1) : Nat) : Int) := by
  obtain ⟨dir, full, t, entries, sib, d⟩ := cleanRoot_deletedFile hp fs size fuel h
  exact ⟨dir, full, t, entries, sib, d.path, d.parses, d.W_pos, d.W_lt, d.listed, d.sibling, d.full_parses, d.cut, d.stat,
    d.regular, d.nonempty, d.level, d.left_of_edge⟩

/-- non-vacuity: a directory of a tree with 600 leaves in which `tile/0/001.p/44` is superseded -/
def demoFS : FS where
  readDir p :=
    if p = ascii "tile" then some [⟨ascii "0", true, 0⟩]
    else if p = ascii "tile/0" then some [⟨ascii "000", false, 8192⟩, ⟨ascii "001", false, 8192⟩, ⟨ascii "001.p", true, 0⟩,
      ⟨ascii "002.p", true, 0⟩]
    else if p = ascii "tile/0/001.p" then some [⟨ascii "44", false, 1408⟩]
    else if p = ascii "tile/0/002.p" then some [⟨ascii "88", false, 2816⟩]
    else none
  stat p := if p = ascii "tile/0/001" then some ⟨ascii "001", false, 8192⟩ else none

theorem demo_run : cleanRoot demoFS sunlightParse 600 8 =
    ([.file (ascii "tile/0/001.p/44"), .dir (ascii "tile/0/001.p")], .ok) := by decide +kernel
example : cleanRoot demoFS sunlightParse 600 8 =
    ([.file (ascii "tile/0/001.p/44"), .dir (ascii "tile/0/001.p")], .ok) := demo_run
example : ascii "tile/0/001.p/44" ∈ filesOf (cleanRoot demoFS sunlightParse 600 8).1 := by rw [demo_run]; decide
/-- at the edge itself nothing is deleted: with 300 leaves `001.p/44` is the right-edge tile -/
example : cleanRoot demoFS sunlightParse 300 8 = ([], .ok) := by decide +kernel
/-- an empty full sibling stops the tool (fourth guard) -/
example : (cleanRoot { demoFS with stat := fun _ => some ⟨[], false, 0⟩ } sunlightParse 600 8) = ([], .abort) := by decide +kernel

/-- **Safe for every later size.** No deleted file is read by anyone fetching or verifying the tree
of any size `S ≥ size`: in particular the tree at the lock-store checkpoint when the lock store is
ahead of the published checkpoint, and every future tree. -/
theorem C18_safe_all_sizes {parse : Bytes → Option Tile} (hp : IsToolParser parse) (fs : FS) (size fuel : Nat)
    (S : Nat) (hS : size ≤ S)
    (p : Bytes) (h : p ∈ filesOf (cleanRoot fs parse size fuel).1) : ¬ needed parse S p := by
  obtain ⟨dir, full, t, entries, sib, d⟩ := cleanRoot_deletedFile hp fs size fuel h
  have hW1 := d.W_lt
  have hlt := d.left_of_edge
  rintro ⟨t2, ht2, hn⟩
  rw [d.parses] at ht2
  cases ht2
  unfold neededTile at hn
  simp only [Bool.or_eq_true, Bool.and_eq_true, beq_iff_eq, decide_eq_true_eq, bne_iff_ne, ne_eq] at hn
  rcases hn with ⟨hw, _⟩ | ⟨⟨hN, hW⟩, hw0⟩
  · omega
  · have : size / 256 ^ (lvl t + 1) ≤ S / 256 ^ (lvl t + 1) := Nat.div_le_div_right hS
    omega

/-- non-vacuity: the needed set is not empty, and the deleted file of the demo is outside it for later sizes -/
example : needed sunlightParse 600 (ascii "tile/0/002.p/88") := ⟨⟨8, 0, 2, 88⟩, by decide +kernel, by decide +kernel⟩
example : needed sunlightParse 600 (ascii "tile/0/001") := ⟨⟨8, 0, 1, 256⟩, by decide +kernel, by decide +kernel⟩
example : needed sunlightParse 300 (ascii "tile/0/001.p/44") := ⟨⟨8, 0, 1, 44⟩, by decide +kernel, by decide +kernel⟩
example : needed torchwoodParse 300 (ascii "tile/entries/001.p/44") := ⟨⟨8, -1, 1, 44⟩, by decide +kernel, by decide +kernel⟩
example : ¬ needed sunlightParse 600 (ascii "tile/0/001.p/44") :=
  C18_safe_all_sizes .sunlight demoFS 600 8 600 (by decide) _ (by rw [demo_run]; decide)

/-- **Nothing else is ever removed.** Every deletion is either a file `a.p/W` that parses as a partial
tile (1 ≤ W < 256, canonical spelling), or a directory `a.p` whose full sibling `a` is listed next to
it and strictly left of the edge, and whose listed entries have all been deleted as such files in
this run (an *emptied* `.p` directory). -/
theorem C18_never_other {parse : Bytes → Option Tile} (hp : IsToolParser parse) (fs : FS) (size fuel : Nat)
    (d : Del) (h : d ∈ (cleanRoot fs parse size fuel).1) :
    match d with
    | .file p => ∃ (a : Bytes) (t : Tile), p = a ++ dotPSlash ++ fmtInt t.W ∧ parse p = some t ∧ 1 ≤ t.W ∧ t.W < 256
    | .dir q => ∃ (dir full : Bytes) (entries partials : List Ent) (t : Tile),
        q = join dir (full ++ dotP) ∧ fs.readDir dir = some entries ∧ full ∈ entries.map (·.name) ∧
        parse (join dir full) = some t ∧ atOrRightOfEdge t size = some false ∧
        fs.readDir q = some partials ∧
        ∀ e ∈ partials, join q e.name ∈ filesOf (cleanRoot fs parse size fuel).1 := by
  cases d with
  | file p =>
    obtain ⟨dir, full, t, _, _, d⟩ := cleanRoot_deletedFile hp fs size fuel (mem_filesOf.mpr h)
    exact ⟨join dir full, t, by rw [d.path, join_partial], d.parses, d.W_pos, d.W_lt⟩
  | dir q =>
    obtain ⟨pfx, full, entries, partials, t, hsup, hq, hparts, hdel⟩ := cleanRoot_justified fs parse size fuel _ h
    exact ⟨pfx, full, entries, partials, t, hq, hsup.listed, hsup.sibling, hsup.parses, hsup.left_of_edge, hparts,
      fun e he => mem_filesOf.mpr (hdel e he)⟩

example : Del.dir (ascii "tile/0/001.p") ∈ (cleanRoot demoFS sunlightParse 600 8).1 := by rw [demo_run]; decide

/-- **No panic.** The right-edge arithmetic returns a value on every tile: levels above 6 are cut off before the
shift (`t.L > 6 → continue`), below that the divisor is `256^(level+1)`, never 0. The proof does not use the
hypotheses `hp` and `h`: they only say where `t` comes from in `cleanDir`. -/
theorem C18_edge_total {parse : Bytes → Option Tile} (hp : IsToolParser parse) (p : Bytes) (t : Tile)
    (h : parse p = some t) (size : Nat) : atOrRightOfEdge t size ≠ none :=
  atOrRightOfEdge_ne_none t size
/-- level 7 and level 2^63 − 1, for which the shift count `8 * (L + 1)` would wrap around to 0, are kept, whatever the
index -/
example : atOrRightOfEdge ⟨8, 7, 0, 256⟩ 1000000 = some true ∧
    atOrRightOfEdge ⟨8, 9223372036854775807, 0, 256⟩ 1000000 = some true := by decide +kernel

/-- position-wise relation between the roots of a run and the deletions made in them -/
inductive AllPairs (P : Root → List Del → Prop) : List Root → List (List Del) → Prop
  | nil : AllPairs P [] []
  | cons {r ds rs dss} : P r ds → AllPairs P rs dss → AllPairs P (r :: rs) (ds :: dss)

theorem AllPairs.map_nil {P : Root → List Del → Prop} (h : ∀ r, P r []) :
    ∀ rest : List Root, AllPairs P rest (rest.map (fun _ => ([] : List Del)))
  | [] => .nil
  | r :: rs => .cons (h r) (map_nil h rs)

/-- **The whole run.** Whatever the order and outcome of the other roots, the deletions made in a root
are none, or exactly those of `cleanRoot` at the size of that root's verified published checkpoint —
so the theorems above about `cleanRoot` apply to every root of every run (`parserOf_tool`). -/
theorem C18_main (fuel : Nat) : ∀ (roots : List Root) (ex : Nat),
    AllPairs (fun r ds => ds = [] ∨ ∃ n, r.size = .ok n ∧ ds = (cleanRoot r.fs (parserOf r.kind) n fuel).1)
      roots (runRoots fuel roots ex).1 := by
  intro roots
  induction roots with
  | nil => intro ex; exact .nil
  | cons r rest ih =>
    intro ex
    unfold runRoots
    split
    · rename_i n hn
      simp only
      split
      · exact .cons (Or.inr ⟨n, hn, rfl⟩) (ih _)
      · exact .cons (Or.inr ⟨n, hn, rfl⟩) (.map_nil (fun _ => Or.inl rfl) _)
      · exact .cons (Or.inr ⟨n, hn, rfl⟩) (ih _)
    · split
      · exact .cons (Or.inl rfl) (.map_nil (fun _ => Or.inl rfl) _)
      · exact .cons (Or.inl rfl) (ih _)
    · split
      · exact .cons (Or.inl rfl) (.map_nil (fun _ => Or.inl rfl) _)
      · exact .cons (Or.inl rfl) (ih _)

theorem parserOf_tool (k : Kind) : IsToolParser (parserOf k) := by
  cases k
  · exact .sunlight
  · exact .torchwood

end C18
