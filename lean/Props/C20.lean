import Proofs.SkylightHealth
/-! C20 — The health endpoint is green only for fresh, valid, consistent state.

About `Skylight.Health.status` / `lines` (`Model/Skylight.lean`): the status and body of `/health` as a
function of, for every configured entry, which of the conditions tested by `checkLog`,
`loadVerifiers`/`hashes` and `witnessHealth.check` hold. For all configurations (any number of logs,
witnesses, mirrors, log directories per witness) and all truth assignments.

Outside the model: that each condition of the model is what the corresponding Go call decides
(`note.Open`, `ParseCheckpoint`, the verifying tile reader, `time.Since`…): tied by the regenerated
condition list (`Tie/C20.lean`) and exercised by `vh health` on the built binary. -/
namespace C20
open Skylight.Health

def logAllHold (e : LogEntry) : Prop := ∀ k ∈ LogCond.applicable e.past, e.holds k = true

/-- **200 ⇔ all conditions of all non-staging entries.** -/
theorem C20_ok_iff (c : Config) :
    status c = 200 ↔
      (∀ e ∈ c.logs, e.staging = false → logAllHold e) ∧ (∀ w ∈ c.wits, w.staging = false → w.allHold) := by
  rw [status_200_iff, Bool.eq_false_iff, ne_eq, lines_any_failed]
  simp [logAllHold]

/-- a healthy pair of logs (one active, one read-only), a witness and its mirror -/
def good : Config where
  logs := [⟨"rome2026h1", false, false, fun _ => true⟩, ⟨"rome2020", false, true, fun _ => true⟩]
  wits := [⟨false, false, fun _ => true, [⟨"00ab", "example.com/log", fun _ => true⟩]⟩,
           ⟨true, false, fun _ => true, [⟨"00ab", "example.com/log", fun _ => true⟩]⟩]

example : status good = 200 ∧ lines good =
    [("rome2026h1", .ok), ("rome2020", .readOnly), ("witness example.com/log", .ok), ("mirror example.com/log", .ok)] := by decide +kernel

/-- **Each condition of a log is load-bearing.** If a single applicable condition `k` of a
non-staging log fails (all its other conditions hold, whatever the other entries look like), the answer is
500 and the body has the line `<that log's name>: <error of k>`. -/
theorem C20_each_load_bearing (c : Config) (e : LogEntry) (he : e ∈ c.logs) (hs : e.staging = false)
    (k : LogCond) (hk : k ∈ LogCond.applicable e.past) (hf : e.holds k = false)
    (hothers : ∀ k' ∈ LogCond.applicable e.past, k' ≠ k → e.holds k' = true) :
    status c = 500 ∧ (e.name, Outcome.failed (.log k)) ∈ lines c := by
  have hline : logLine e = (e.name, Outcome.failed (.log k)) := by
    simp [logLine, checkLog, firstFail_single hk hf hothers, report, hs]
  have hmem : (e.name, Outcome.failed (.log k)) ∈ lines c := hline ▸ mem_lines_log he
  exact ⟨status_500_of_failed hmem rfl, hmem⟩

/-- the same for the directory-level conditions of a witness or mirror (verifier-key files): the line is
labelled `witness` / `mirror` -/
theorem C20_each_load_bearing_witness (c : Config) (w : WitEntry) (hw : w ∈ c.wits) (hs : w.staging = false)
    (k : WitCond) (hk : k ∈ WitCond.applicable w.mirror) (hf : w.holds k = false)
    (hothers : ∀ k' ∈ WitCond.applicable w.mirror, k' ≠ k → w.holds k' = true) :
    status c = 500 ∧ (kindName w.mirror, Outcome.failed (.wit k)) ∈ lines c := by
  have hmem : (kindName w.mirror, Outcome.failed (.wit k)) ∈ witLines w := by
    simp [witLines, firstFail_single hk hf hothers, report, hs]
  exact ⟨status_500_of_failed (mem_lines_wit hw hmem) rfl, mem_lines_wit hw hmem⟩

/-- the same for every condition of every log directory of a witness or mirror whose verifier keys load:
the line names that log (by its verified origin, or by the directory name when the checkpoint itself is
what is broken) -/
theorem C20_each_load_bearing_witness_log (c : Config) (w : WitEntry) (hw : w ∈ c.wits) (hs : w.staging = false)
    (hkeys : ∀ k ∈ WitCond.applicable w.mirror, w.holds k = true)
    (l : WLog) (hl : l ∈ w.logs)
    (k : WLogCond) (hk : k ∈ WLogCond.applicable w.mirror) (hf : l.holds k = false)
    (hothers : ∀ k' ∈ WLogCond.applicable w.mirror, k' ≠ k → l.holds k' = true) :
    status c = 500 ∧ (l.label w.mirror, Outcome.failed (.wlog k)) ∈ lines c := by
  have hmem : (l.label w.mirror, Outcome.failed (.wlog k)) ∈ witLines w := by
    rw [witLines, (firstFail_none_iff w.holds _).mpr hkeys]
    refine List.mem_map.mpr ⟨l, hl, ?_⟩
    simp [wlogLine, firstFail_single hk hf hothers, report, hs]
  exact ⟨status_500_of_failed (mem_lines_wit hw hmem) rfl, mem_lines_wit hw hmem⟩

def flip {κ : Type} [DecidableEq κ] (h : κ → Bool) (k : κ) : κ → Bool := fun x => if x = k then !h x else h x

/-- corollary in the "flip" form: take any configuration, any non-staging log all of whose conditions
hold, negate exactly one applicable condition: 500, naming the log. -/
theorem C20_flip_one (pre post : List LogEntry) (wits : List WitEntry) (e : LogEntry) (hs : e.staging = false)
    (hgood : logAllHold e) (k : LogCond) (hk : k ∈ LogCond.applicable e.past) :
    let e' : LogEntry := { e with holds := flip e.holds k }
    let c : Config := ⟨pre ++ e' :: post, wits⟩
    status c = 500 ∧ (e.name, Outcome.failed (.log k)) ∈ lines c := by
  intro e' c
  have he : e' ∈ c.logs := by simp [c]
  refine C20_each_load_bearing c e' he hs k hk ?_ ?_
  · simp [e', flip, hgood k hk]
  · intro k' hk' hne
    simp [e', flip, hne, hgood k' hk']

/-- non-vacuity: every one of the 11 conditions of an active log and the 14 of a read-only one, alone -/
example : ∀ k ∈ LogCond.applicable false,
    status ⟨[⟨"a", false, false, flip (fun _ => true) k⟩], []⟩ = 500 := by decide +kernel
example : ∀ k ∈ LogCond.applicable true,
    lines ⟨[⟨"a", false, true, flip (fun _ => true) k⟩], []⟩ = [("a", .failed (.log k))] := by decide +kernel
example : status ⟨[], [⟨true, false, fun _ => true, [⟨"00ab", "o", flip (fun _ => true) .notAhead⟩]⟩]⟩ = 500 ∧
    lines ⟨[], [⟨true, false, fun _ => true, [⟨"00ab", "o", flip (fun _ => true) .notAhead⟩]⟩]⟩ =
      [("mirror o", .failed (.wlog .notAhead))] := by decide +kernel
/-- a stale checkpoint does not matter past the read-only date, a wrong final tree does not matter before -/
example : status ⟨[⟨"a", false, true, flip (fun _ => true) .fresh⟩, ⟨"b", false, false, flip (fun _ => true) .finalSize⟩], []⟩ = 200 := by
  decide +kernel

/-- **Staging entries are ignored.** The status is the status of the configuration with every staging
entry removed, and no line of a staging entry is a failure. Not claimed (and false): that such a line is always
`ignored`; a healthy staging entry still gives `ok` or `readOnly`. -/
theorem C20_staging_ignored (c : Config) :
    status c = status ⟨c.logs.filter (fun e => !e.staging), c.wits.filter (fun w => !w.staging)⟩ ∧
    (∀ e ∈ c.logs, e.staging = true → (logLine e).2.isFailed = false) ∧
    (∀ w ∈ c.wits, w.staging = true → ∀ ln ∈ witLines w, ln.2.isFailed = false) := by
  refine ⟨?_, ?_, ?_⟩
  · -- the same entries make a failure before and after filtering
    have : (lines c).any (·.2.isFailed) =
        (lines ⟨c.logs.filter (fun e => !e.staging), c.wits.filter (fun w => !w.staging)⟩).any (·.2.isFailed) := by
      rw [Bool.eq_iff_iff, lines_any_failed, lines_any_failed]
      simp only [List.mem_filter, Bool.not_eq_true', and_assoc, and_self_left]
    rw [status, status, this]
  · intro e _ hs
    exact Bool.eq_false_iff.mpr fun hv => nomatch hs.symm.trans ((logLine_failed_iff e).mp hv).1
  · intro w _ hs ln hln
    exact Bool.eq_false_iff.mpr fun hv =>
      nomatch hs.symm.trans ((witLines_failed_iff w).mp (List.any_eq_true.mpr ⟨ln, hln, hv⟩)).1

example : status ⟨[⟨"staging", true, false, fun _ => false⟩], [⟨true, true, fun _ => false, []⟩]⟩ = 200 ∧
    lines ⟨[⟨"staging", true, false, fun _ => false⟩], [⟨true, true, fun _ => false, []⟩]⟩ =
      [("staging", .ignored (.log .jsonRead)), ("mirror", .ignored (.wit .infoRead))] := by decide +kernel

end C20
