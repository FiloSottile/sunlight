import Proofs.SeqDemo
import Proofs.SeqSoloPub
/-! C02 — An SCT is returned only for an entry already in the published tree.
`acks` records every acknowledgement (index, timestamp, dedup class) the model accepted. -/
namespace C02
open Seq

/-- Every acknowledgement names an index of a checkpoint that had been published (its upload took
    effect) before the acknowledgement, and the leaf there is the acknowledged entry (same
    deduplication class) with exactly the acknowledged timestamp. -/
theorem C02_ack_published {s : Sys} (r : Reachable s) :
    ∀ a ∈ s.acks, ∃ c ∈ s.pubHist, ∃ l, c.leaves[a.idx]? = some l ∧ l.key = a.key ∧ l.ts = a.ts :=
  (inv2_reachable r).acks

/-- … and this stays true in every checkpoint ever committed or published that covers the index
    (also after a crash right after the acknowledgement: `Reachable` includes crash events). -/
theorem C02_ack_stable {s : Sys} (r : Reachable s) :
    ∀ a ∈ s.acks, ∀ d ∈ s.pubHist ++ s.lockHist, a.idx < d.leaves.length →
      ∃ l, d.leaves[a.idx]? = some l ∧ l.key = a.key ∧ l.ts = a.ts := by
  intro a ha d hd hlt
  obtain ⟨c, hc, l, hl, hk, ht⟩ := C02_ack_published r a ha
  have hinv := inv_reachable r
  have hcl : c ∈ s.lockHist := hinv.pub c hc
  have hdl : d ∈ s.lockHist := by
    rcases List.mem_append.1 hd with h | h
    · exact hinv.pub d h
    · exact h
  have hidx : a.idx < c.leaves.length := (List.getElem?_eq_some_iff.1 hl).1
  exact ⟨l, (hinv.leaf_agree hdl hcl hlt hidx).trans hl, hk, ht⟩

/-- A round hands out acknowledgements only after its checkpoint upload succeeded; a cache hit is the
    only other source (and the cache only holds published leaves, see `C02_cache_published`). -/
theorem C02_ack_after_publish (s s' : Sys) (i eid key idx ts : Nat)
    (h : step s (.ack i eid key idx ts) = some s') :
    cacheLookup (s.insts i).cache key = some (idx, ts) ∨
    ∃ rd, (s.insts i).phase = .round rd ∧ rd.pc = .done .ok ∧ rd.published = true := by
  cases step_sound h with
  | ack hsrc _ => exact hsrc.imp_right fun ⟨rd, _, _, hph, hpc, hp, _⟩ => ⟨rd, hph, hpc, hp⟩

/-- The cache is written only with leaves of a published tree (it is filled after the checkpoint upload). -/
theorem C02_cache_published {s : Sys} (r : Reachable s) (i : Nat) :
    ∀ e ∈ (s.insts i).cache, ∃ c ∈ s.pubHist, ∃ l, c.leaves[e.2.1]? = some l ∧ l.key = e.1 ∧ l.ts = e.2.2 :=
  (inv2_reachable r).cache i

/-- A round that did not publish (failed or fatal) acknowledges nothing; only a cache hit is still answered. -/
theorem C02_failed_round_no_ack (s : Sys) (i eid key idx ts : Nat) (rd : Round) (c : Cls)
    (hp : (s.insts i).phase = .round rd) (hpc : rd.pc = .done c) (hc : c ≠ .ok)
    (hcache : cacheLookup (s.insts i).cache key ≠ some (idx, ts)) :
    step s (.ack i eid key idx ts) = none := by
  cases c <;> simp_all [step]

example : ∃ s, Reachable s ∧ s.acks.length = 1 := by
  obtain ⟨s, h, _, _, ha⟩ := Seq.Demo.demo_runs
  exact ⟨s, ⟨0, _, h⟩, ha⟩

/-- C02 at full strength for its own quantifier (one process dying and restarting; any faults, crashes,
    clock behaviour, duplicate and concurrent-with-round submissions): what the PUBLIC checkpoint
    object held at the instant the acknowledgement was issued (`pubAt`, recorded by the `ack` step
    itself) covers the acknowledged index, and the leaf there is the acknowledged entry with exactly
    the acknowledged timestamp. With two overlapping instances the public object can regress (F3) and
    only `C02_ack_published` / `C02_ack_stable` hold. -/
theorem C02_ack_readable_solo {s : Sys} (r : ReachableSolo s) (ht : s.tampered = false) :
    ∀ a ∈ s.acks, ∃ c, a.pubAt = some c ∧ ∃ l, c.leaves[a.idx]? = some l ∧ l.key = a.key ∧ l.ts = a.ts :=
  ackPub_reachable r ht

/-- … and the public checkpoint object at every later instant of such a run still covers it -/
theorem C02_ack_stays_readable_solo {s : Sys} (r : ReachableSolo s) (ht : s.tampered = false) :
    ∀ a ∈ s.acks, ∃ c, s.store .ckpt = some (.ck c, false) ∧
      ∃ l, c.leaves[a.idx]? = some l ∧ l.key = a.key ∧ l.ts = a.ts :=
  acks_readable_now r ht

theorem demo_inst : ∀ e ∈ Seq.Demo.demo, e.inst = some 0 :=
  insts_eq_of_all (by decide)

/-- non-vacuity: a single-process untampered run with an acknowledgement -/
example : ∃ s, ReachableSolo s ∧ s.tampered = false ∧ s.acks.length = 1 := by
  obtain ⟨s, h, _, _, ha⟩ := Seq.Demo.demo_runs
  obtain ⟨s2, h2, ht, _⟩ := Seq.Demo.demo_untampered
  have : s2 = s := by rw [h] at h2; injection h2 with h2; exact h2.symm
  subst this
  exact ⟨s2, (ReachableSolo.init 0).run_inst (i := 0) (fun _ _ => rfl) demo_inst h, ht, ha⟩

end C02
