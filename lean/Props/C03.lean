import Proofs.SeqDemo
import Proofs.SeqSolo
import Proofs.SeqBricked
/-! C03 — A crash at any point of sequencing or recovery is recoverable without loss.
`Reachable` includes a `crash` event at every point between two storage/lock operations of a round
and of a recovery, with every applied/not-applied outcome of the operation in flight.

Proved here, for every accepted event sequence: nothing acknowledged is ever lost from the committed
history; a staging bundle is discarded only after the published checkpoint has caught up with it; the tree
committed in the lock store is always completely rendered or its bundle is still staged
(`C03_lock_tree_recoverable_state`, invariant `Inv4`); and the liveness half — **for runs with one live
process at a time, which is C03's own quantifier, a fault-free restart from EVERY reachable untampered
state is accepted event by event and ends `loaded` on exactly the lock checkpoint with every tile
present and the instance able to sequence again** (`C03_recoverable`, `C03_recoverable_after_crash`).
For overlapping processes the same holds whenever the checkpoint object has the lock checkpoint's leaves
or the bundle is still staged (`C03_recoverable_of_ckpt_or_staged`, `…_of_no_regression`); without
that hypothesis it is FALSE in the model and in the code: `C03_unrecoverable_after_pub_regress_witness`
(finding F9, replayed on real instances) and `C03_bricked_forever`. Not modelled: wall-clock time-outs.
-/
namespace C03
open Seq

/-- No acknowledged entry is lost: in every reachable state — across any number of crashes and restarts — every
    acknowledgement ever issued names an index at which a committed checkpoint holds that entry with that
    timestamp. That every committed or published checkpoint covering the index agrees is `C02_ack_stable`. -/
theorem C03_no_loss {s : Sys} (r : Reachable s) :
    ∀ a ∈ s.acks, ∃ c ∈ s.lockHist, ∃ l, c.leaves[a.idx]? = some l ∧ l.key = a.key ∧ l.ts = a.ts := by
  intro a ha
  obtain ⟨c, hc, l, h⟩ := (inv2_reachable r).acks a ha
  exact ⟨c, (inv_reachable r).pub c hc, l, h⟩

/-- A staged upload bundle is discarded only after a checkpoint with exactly its tree has been published: the
    discarding round's own, whose upload has succeeded (`discard_only_after_publish`). -/
theorem C03_discard_late {s s' : Sys} (r : Reachable s) (i : Nat) (k : Key) (res : Res)
    (h : step s (.discard i k res) = some s') : ∃ c ∈ s.pubHist, k = .staging c.leaves := by
  obtain ⟨rd, hph, hpc, hk⟩ := discard_only_after_publish s s' i k res h
  obtain ⟨hpub, hisp⟩ := (inv2_reachable r).round i rd hph
  have hp : rd.published = true := by rw [hisp, hpc]; rfl
  exact ⟨rd.new, hpub hp, hk⟩

/-- Nothing but staging bundles is ever discarded. -/
theorem C03_only_staging_discarded {s : Sys} (r : Reachable s) : ∀ k ∈ s.discarded, ∃ t, k = .staging t :=
  (inv2_reachable r).disc

/-- Recovery, safety half: an instance comes up only on a committed checkpoint and holds exactly that tree
    afterwards, so it extends that tree (`C01_lock_chain`). That the right-edge objects it consulted were
    renderings of it is `C08_load_sound`; that a recovery run exists is `C03_recoverable`. -/
theorem C03_recoverable_partial {s s' : Sys} (r : Reachable s) (i : Nat) (c : Ck)
    (h : step s (.loaded i c) = some s') : c ∈ s.lockHist ∧ (s'.insts i).tree = c := by
  obtain ⟨hph, ht⟩ := loaded_sound s s' i c h
  have := (inv_reachable r).inst i
  simp only [InstOK, hph, LoadOK] at this
  exact ⟨this, ht⟩

/-- After a restart has loaded successfully — from whatever crash state, with whatever was applied of the
    operations in flight — every tile of the tree it comes up on is present in object storage with the
    prescribed content (no tampering). -/
theorem C03_loaded_complete {s s' : Sys} (r : Reachable s) (ht : s.tampered = false) (i : Nat) (c : Ck)
    (h : step s (.loaded i c) = some s') : Complete s.store c.leaves := by
  obtain ⟨hph, _⟩ := loaded_sound s s' i c h
  have := (inv3_reachable r ht).inst i
  simpa [SOK, hph] using this

/-- A staged bundle in storage always belongs to a completely rendered base tree: re-applying it
    (idempotently: tiles are immutable) yields the completely rendered committed tree. -/
theorem C03_staged_bundle_recovers {s : Sys} (r : Reachable s) (ht : s.tampered = false) (tr : Tree)
    (items : List (TileId × Tree)) (imm : Bool) (hs : s.store (.staging tr) = some (.bundle items, imm)) :
    ∃ old, bundleOK old.length tr items = true ∧ old <+: tr ∧ Complete s.store old ∧
      ∀ st', TileLe s.store st' → (∀ t ∈ items.map (·.1), Good st' tr t) → Complete st' tr := by
  obtain ⟨old, hb, hp, hc⟩ := (inv3_reachable r ht).staged tr items imm hs
  exact ⟨old, hb, hp, hc, fun st' hle hg => complete_of_bundle (hc.mono hle) hp hb hg⟩

/-- crash events are accepted in every state -/
theorem C03_crash_anywhere (s : Sys) (i : Nat) : ∃ s', step s (.crash i) = some s' := ⟨_, rfl⟩

example : ∃ s, Reachable s ∧ s.lockHist.length = 3 := by
  obtain ⟨s, hr, hl⟩ := Seq.Demo.demo_reachable
  exact ⟨s, hr, by rw [hl]; rfl⟩

/-- **The lock tree is always recoverable from the store (I5).** In every reachable untampered state the
    tree committed in the lock store is completely rendered in object storage, or its upload bundle is
    still staged: a non-empty bundle of exactly the tiles of a growth step from a completely rendered
    base tree, whose (idempotent) re-application renders the committed tree completely. -/
theorem C03_lock_tree_recoverable_state {s : Sys} (r : Reachable s) (ht : s.tampered = false) (c : Ck)
    (hl : s.lock = some c) :
    Complete s.store c.leaves ∨
    ∃ items imm, s.store (.staging c.leaves) = some (.bundle items, imm) ∧ items ≠ [] ∧
      ∃ old, bundleOK old.length c.leaves items = true ∧ old <+: c.leaves ∧ Complete s.store old ∧
        ∀ st', TileLe s.store st' → (∀ t ∈ items.map (·.1), Good st' c.leaves t) → Complete st' c.leaves := by
  have h4 := inv4_reachable r ht
  rcases h4.lockRec (inv_reachable r) (inv3_reachable r ht) c hl with hc | ⟨items, imm, hs⟩
  · exact Or.inl hc
  · right
    obtain ⟨_, items', hb, hne⟩ := h4.stagedNe _ _ _ hs
    injection hb with hb; subst hb
    exact ⟨items, imm, hs, hne, C03_staged_bundle_recovers r ht c.leaves items imm hs⟩

/-- Every committed tree (not only the newest) is empty, or was published, or still has its bundle staged. -/
theorem C03_committed_trees_recoverable {s : Sys} (r : Reachable s) (ht : s.tampered = false) :
    ∀ c ∈ s.lockHist, c.leaves = [] ∨ (∃ p ∈ s.pubHist, p.leaves = c.leaves) ∨
      ∃ items imm, s.store (.staging c.leaves) = some (.bundle items, imm) :=
  (inv4_reachable r ht).hist

/-- **Recovery, conditional form.** From every reachable untampered state in which log creation has
    completed, a fault-free `LoadLog` of an instance that is down (started with the log's own name and key, at a
    clock value not before the lock checkpoint's) is accepted by the model event by event and ends
    `loaded` on exactly the lock-store checkpoint, with every tile of that tree present, every requested
    right-edge fetch answered with the prescribed content, locks / histories / other instances
    untouched, and the instance able to sequence again — PROVIDED (`hcs`) the checkpoint object has the
    lock checkpoint's leaves or the lock tree's bundle is still staged. `hcs` is not a theorem of the
    model: see `C03_unrecoverable_after_pub_regress_witness`. It holds whenever the checkpoint object is
    a longest published one (`C03_recoverable_of_no_regression`) and in every state of a run with one
    live process at a time (`C03_recoverable`). -/
theorem C03_recoverable_of_ckpt_or_staged {s : Sys} (r : Reachable s) (ht : s.tampered = false) (i : Nat) (c : Ck)
    (v : Nat) (hl : s.lock = some c) (hpub : s.pubHist ≠ [])
    (hdown : (s.insts i).phase = .down) (hcfg : (s.insts i).cfgBad = false) (hv : c.time ≤ v)
    (hcs : ∀ c1 imm, s.store .ckpt = some (.ck c1, imm) → c1.leaves = c.leaves ∨
      ∃ items imm', s.store (.staging c.leaves) = some (.bundle items, imm'))
    (ts : List TileId) (hts : ∀ t ∈ ts, Req c.leaves.length t = true ∧ t.kind.level < 8) :
    ∃ es s', run s es = some s' ∧ (s'.insts i).phase = .idle ∧ (s'.insts i).tree = c ∧
      Complete s'.store c.leaves ∧ s'.lock = some c ∧ s'.lockHist = s.lockHist ∧ s'.pubHist = s.pubHist ∧
      s'.tampered = false ∧ (∀ j, j ≠ i → s'.insts j = s.insts j) ∧
      es.head? = some (.launchLoad i) ∧ es.getLast? = some (.loaded i c) ∧
      (∀ t ∈ ts, Ev.fetch i (.tile t) (.ok (.slice (t.slice c.leaves))) ∈ es) ∧
      (∃ s'', step s' (.launchRound i) = some s'') :=
  recover_run_of_ckpt_or_staged r ht i c v hl hpub hdown hcfg hv hcs ts hts

/-- the same when the checkpoint object is a longest published checkpoint (no publication regression) -/
theorem C03_recoverable_of_no_regression {s : Sys} (r : Reachable s) (ht : s.tampered = false) (i : Nat) (c : Ck)
    (v : Nat) (hl : s.lock = some c) (hpub : s.pubHist ≠ [])
    (hdown : (s.insts i).phase = .down) (hcfg : (s.insts i).cfgBad = false) (hv : c.time ≤ v)
    (hnr : ∀ c1 imm, s.store .ckpt = some (.ck c1, imm) → ∀ p ∈ s.pubHist, p.leaves.length ≤ c1.leaves.length)
    (ts : List TileId) (hts : ∀ t ∈ ts, Req c.leaves.length t = true ∧ t.kind.level < 8) :
    ∃ es s', run s es = some s' ∧ (s'.insts i).phase = .idle ∧ (s'.insts i).tree = c ∧
      Complete s'.store c.leaves ∧ s'.lock = some c ∧ s'.lockHist = s.lockHist ∧ s'.pubHist = s.pubHist ∧
      s'.tampered = false ∧ (∀ j, j ≠ i → s'.insts j = s.insts j) ∧
      es.head? = some (.launchLoad i) ∧ es.getLast? = some (.loaded i c) ∧
      (∀ t ∈ ts, Ev.fetch i (.tile t) (.ok (.slice (t.slice c.leaves))) ∈ es) ∧
      (∃ s'', step s' (.launchRound i) = some s'') :=
  recover_run_of_ckpt_or_staged r ht i c v hl hpub hdown hcfg hv
    (ckpt_or_staged_of_no_regression r ht hl hnr) ts hts

/-- **Unconditional recovery is false in the model** (and in the code: replayed on real `ctlog.Log`
    instances): a publication regression followed by a discard. There is a reachable, untampered state
    with log creation completed, every process down (all with the log's own configuration) and a lock
    checkpoint `c`, in which the fault-free load of ANY instance is accepted up to the staging fetch and
    there every consistent fetch result ends the load in failure: the checkpoint object is behind the
    lock checkpoint and the lock tree's bundle has been discarded (although every tile of the lock tree
    is in the store). Moreover the state is bricked forever: no accepted event sequence without
    tampering — any instances, fault outcomes, interleavings — ever contains a `loaded` event or
    brings an instance up. Run: `Seq.Cex.cex`. -/
theorem C03_unrecoverable_after_pub_regress_witness :
    ∃ s c, Reachable s ∧ s.tampered = false ∧ s.pubHist ≠ [] ∧ s.lock = some c ∧
      (∀ j, (s.insts j).phase = .down ∧ (s.insts j).cfgBad = false) ∧
      (∃ c1, s.store .ckpt = some (.ck c1, false) ∧ c1.leaves.length < c.leaves.length) ∧
      s.store (.staging c.leaves) = none ∧ Complete s.store c.leaves ∧
      (∀ i, ∃ sL, run s (Seq.Cex.loadAttempt i) = some sL ∧ (sL.insts i).phase = .loading (.stagingFetch c) ∧
        ∀ k res s', step sL (.fetch i k res) = some s' →
          k = .staging c.leaves ∧ (s'.insts i).phase = .loading .failing) ∧
      (∀ es s', run s es = some s' → s'.tampered = false →
        (∀ i, isUp (s'.insts i) = false) ∧ ∀ i c', Ev.loaded i c' ∉ es) := by
  obtain ⟨s, h, ht, hl, _, hp, hck, hstg, _⟩ := Seq.Cex.cex_runs
  have r : Reachable s := ⟨0, _, h⟩
  refine ⟨s, Seq.RecDemo.c2, r, ht, by rw [hp]; simp, hl, Seq.Cex.cex_all_down h,
    ⟨Seq.RecDemo.c1, hck, by decide⟩, hstg, ?_, Seq.Cex.cex_load_fails h, ?_⟩
  · exact (inv3_reachable r ht).pub _ (by rw [hp]; simp)
  · intro es s' hrun ht'
    exact (bricked_forever (Seq.Cex.cex_bricked h) hrun ht').2

/-- non-vacuity of the recovery theorems: a process that died right after its compare-and-swap (one of
    three tiles uploaded) leaves a state satisfying every hypothesis of `C03_recoverable_of_ckpt_or_staged` -/
example : ∃ s i c v, Reachable s ∧ s.tampered = false ∧ s.lock = some c ∧ s.pubHist ≠ [] ∧
    (s.insts i).phase = .down ∧ (s.insts i).cfgBad = false ∧ c.time ≤ v ∧ ¬ Complete s.store c.leaves ∧
    (∀ c1 imm, s.store .ckpt = some (.ck c1, imm) → c1.leaves = c.leaves ∨
      ∃ items imm', s.store (.staging c.leaves) = some (.bundle items, imm')) := by
  obtain ⟨s, h, ht, hl, hp, hck, hstg, hd, hg, hnone⟩ := Seq.RecDemo.crashAfterCas_runs
  exact ⟨s, 0, Seq.RecDemo.c1, 120, ⟨0, _, h⟩, ht, hl, by rw [hp]; simp, hd, hg, by decide,
    Seq.RecDemo.c1_incomplete hnone, fun _ _ _ => Or.inr ⟨_, _, hstg⟩⟩

/-- **C03, liveness half: a crash at any point is recoverable.** C03 quantifies over ONE process dying
    and restarting: runs in which at most one instance is running at any moment (`ReachableSolo`; every
    fault outcome of every storage / lock operation, crashes between any two operations, any number
    of restarts). In every state of such a run, without tampering, once log creation has completed, a
    fault-free `LoadLog` of an instance that is down, started with the log's own configuration, at a clock
    value not before the lock checkpoint's, is accepted by the model event by event and ends `loaded` on
    exactly the lock-store checkpoint, with every tile of that tree present and every requested
    right-edge fetch answered with the prescribed content; locks, histories and other instances are
    untouched; the instance can start a sequencing round; and the resulting state is again a state of a
    single-process run, so the theorem applies to every later crash as well. -/
theorem C03_recoverable {s : Sys} (r : ReachableSolo s) (ht : s.tampered = false) (i : Nat) (c : Ck) (v : Nat)
    (hl : s.lock = some c) (hpub : s.pubHist ≠ [])
    (hdown : (s.insts i).phase = .down) (hcfg : (s.insts i).cfgBad = false) (hv : c.time ≤ v)
    (ts : List TileId) (hts : ∀ t ∈ ts, Req c.leaves.length t = true ∧ t.kind.level < 8) :
    ∃ es s', run s es = some s' ∧ (s'.insts i).phase = .idle ∧ (s'.insts i).tree = c ∧
      Complete s'.store c.leaves ∧ s'.lock = some c ∧ s'.lockHist = s.lockHist ∧ s'.pubHist = s.pubHist ∧
      s'.tampered = false ∧ (∀ j, j ≠ i → s'.insts j = s.insts j) ∧
      es.head? = some (.launchLoad i) ∧ es.getLast? = some (.loaded i c) ∧
      (∀ t ∈ ts, Ev.fetch i (.tile t) (.ok (.slice (t.slice c.leaves))) ∈ es) ∧
      (∃ s'', step s' (.launchRound i) = some s'') ∧
      ((∀ j, j ≠ i → (s.insts j).phase = .down) → ReachableSolo s') :=
  recover_run_solo r ht i c v hl hpub hdown hcfg hv ts hts

/-- the crash form: the running process `i` of a single-process run dies in ANY state (in the middle of a
    round, of a recovery, of anything); then every process is down, and restarting any instance `k`
    that has the log's own configuration recovers as in `C03_recoverable` -/
theorem C03_recoverable_after_crash {s0 : Sys} (r : ReachableSolo s0) (ht : s0.tampered = false) (i k : Nat)
    (c : Ck) (v : Nat) (hl : s0.lock = some c) (hpub : s0.pubHist ≠ [])
    (hothers : ∀ j, j ≠ i → (s0.insts j).phase = .down)
    (hcfg : (s0.insts k).cfgBad = false) (hv : c.time ≤ v)
    (ts : List TileId) (hts : ∀ t ∈ ts, Req c.leaves.length t = true ∧ t.kind.level < 8) :
    ∃ s, step s0 (.crash i) = some s ∧ (∀ j, (s.insts j).phase = .down) ∧
    ∃ es s', run s es = some s' ∧ (s'.insts k).phase = .idle ∧ (s'.insts k).tree = c ∧
      Complete s'.store c.leaves ∧ s'.lock = some c ∧ s'.lockHist = s.lockHist ∧ s'.pubHist = s.pubHist ∧
      s'.tampered = false ∧ (∀ j, j ≠ k → s'.insts j = s.insts j) ∧
      es.head? = some (.launchLoad k) ∧ es.getLast? = some (.loaded k c) ∧
      (∀ t ∈ ts, Ev.fetch k (.tile t) (.ok (.slice (t.slice c.leaves))) ∈ es) ∧
      (∃ s'', step s' (.launchRound k) = some s'') ∧ ReachableSolo s' := by
  obtain ⟨s, hstep, rs, hdi, hcfgi, hlock, hp, _, htam, hoth⟩ := reachableSolo_crash r i
  have hall : ∀ j, (s.insts j).phase = .down := by
    intro j
    by_cases hj : j = i
    · subst hj; exact hdi
    · rw [hoth j hj]; exact hothers j hj
  have hcfgk : (s.insts k).cfgBad = false := by
    by_cases hk : k = i
    · subst hk; rw [hcfgi]; exact hcfg
    · rw [hoth k hk]; exact hcfg
  obtain ⟨es, s', h1, h2, h3, h4, h5, h6, h7, h8, h9, h10, h11, h12, h13, h14⟩ :=
    recover_run_solo rs (htam.trans ht) k c v (hlock.trans hl) (by rw [hp]; exact hpub) (hall k) hcfgk hv ts hts
  exact ⟨s, hstep, hall, es, s', h1, h2, h3, h4, h5, h6, h7, h8, h9, h10, h11, h12, h13, h14 (fun j _ => hall j)⟩

/-- in single-process runs the checkpoint object is never behind a lock tree whose bundle is gone -/
theorem C03_solo_ckpt_or_staged {s : Sys} (r : ReachableSolo s) (ht : s.tampered = false) (c : Ck)
    (hl : s.lock = some c) : ∀ c1 imm, s.store .ckpt = some (.ck c1, imm) →
      c1.leaves = c.leaves ∨ ∃ items imm', s.store (.staging c.leaves) = some (.bundle items, imm') :=
  (soloInv_reachable r ht).cks c hl

/-- non-vacuity of `C03_recoverable`: the crash-after-compare-and-swap state is a state of a single-process
    run and satisfies every hypothesis; its tree is not completely rendered before the recovery -/
example : ∃ s i c v, ReachableSolo s ∧ s.tampered = false ∧ s.lock = some c ∧ s.pubHist ≠ [] ∧
    (s.insts i).phase = .down ∧ (s.insts i).cfgBad = false ∧ c.time ≤ v ∧ ¬ Complete s.store c.leaves := by
  obtain ⟨s, h, ht, hl, hp, hck, hstg, hd, hg, hnone⟩ := Seq.RecDemo.crashAfterCas_runs
  have rs : ReachableSolo s :=
    (ReachableSolo.init 0).run_inst (i := 0) (fun _ _ => rfl) Seq.RecDemo.crashAfterCas_inst h
  exact ⟨s, 0, Seq.RecDemo.c1, 120, rs, ht, hl, by rw [hp]; simp, hd, hg, by decide,
    Seq.RecDemo.c1_incomplete hnone⟩

/-- **Bricked forever.** Whenever every process is down while the checkpoint object is behind the lock
    checkpoint and the lock tree's bundle is gone, no accepted event sequence without tampering ever
    contains a `loaded` event or brings any instance up (operator repair of the store is needed).
    By `C03_solo_ckpt_or_staged` this never happens in single-process runs. -/
theorem C03_bricked_forever {s s' : Sys} {c c1 : Ck} {imm : Bool} {es : List Ev} (hl : s.lock = some c)
    (hck : s.store .ckpt = some (.ck c1, imm)) (hbe : c1.leaves.length < c.leaves.length)
    (hg : s.store (.staging c.leaves) = none) (hd : ∀ j, (s.insts j).phase = .down)
    (h : run s es = some s') (ht : s'.tampered = false) :
    (∀ i, isUp (s'.insts i) = false) ∧ ∀ i c', Ev.loaded i c' ∉ es :=
  (bricked_forever (bricked_of_all_down hl hck hbe hg hd) h ht).2

end C03
