import Proofs.Lock
/-! C05 — Lock backends are linearizable compare-and-swap registers.

Values and log IDs are arbitrary byte lists (`Bytes = List UInt8`): every theorem below holds for
the empty value and for values containing NUL bytes because it holds for all of them.

What is proved here is about the models in `Model/Lock.lean`. `Tie/C05.lean` ties the statement
tables of the three backend models to the current source; `vh lock` + `drv lock` compare the real
backends with `CasSpec` and check recorded concurrent histories with `checkWitness`.
Outside the model (runtime, sampled): SQLite/OS file locking, real DynamoDB/S3 semantics, reopen,
power-loss durability. -/
namespace C05
open Lock

/-! ### Each backend step refines the specification step (all programs, all values) -/

/-- SQLite: mutex + `UPDATE … WHERE logID = ? AND body = ?` + `changes() == 0 ⇒ error`,
`INSERT … ON CONFLICT(logID) DO NOTHING` + `changes() == 0 ⇒ error`, `SELECT`. -/
theorem C05_refines_sqlite (cs : List Cmd) :
    (Sqlite.backend Sqlite.program).run cs = specRun cs :=
  run_refines sqliteRefinement cs

/-- DynamoDB: `PutItem` with `checkpoint = :old` / `attribute_not_exists(logID)`, consistent `GetItem`;
server contract: a conditional `PutItem` is atomic. -/
theorem C05_refines_dynamo (cs : List Cmd) :
    (Dynamo.backend Dynamo.program).run cs = specRun cs :=
  run_refines dynamoRefinement cs

/-- ETag storage: `PutObject` with `If-Match: <etag>` / `If-Match: ""`; server contract: a
conditional `PutObject` is atomic, equal ETag ⇒ equal content, ETags are not empty. -/
theorem C05_refines_etag (tag : Val → ETag.Tag) (C : ETag.TagContract tag) (cs : List Cmd) :
    (ETag.backend tag ETag.program).run cs = specRun cs :=
  run_refines (etagRefinement tag C) cs

/-- One statement for the three of them. -/
inductive BackendKind | sqlite | dynamo | etag

def impl (tag : Val → ETag.Tag) : BackendKind → Backend
  | .sqlite => Sqlite.backend Sqlite.program
  | .dynamo => Dynamo.backend Dynamo.program
  | .etag => ETag.backend tag ETag.program

theorem C05_refines (tag : Val → ETag.Tag) (C : ETag.TagContract tag) (k : BackendKind)
    (cs : List Cmd) : (impl tag k).run cs = specRun cs := by
  cases k
  · exact C05_refines_sqlite cs
  · exact C05_refines_dynamo cs
  · exact C05_refines_etag tag C cs

/-! Non-vacuity: the ETag contract is satisfiable, and the runs are not all trivially equal. -/

theorem char_toNat_ofNat (n : Nat) (h : n < 256) : (Char.ofNat n).toNat = n := by
  have hv : n.isValidChar := Or.inl (by omega)
  simp [Char.ofNat, hv, Char.toNat, Char.ofNatAux]

def demoTag (v : Val) : String := String.ofList ('"' :: v.map fun b => Char.ofNat b.toNat)

theorem demoTag_contract : ETag.TagContract demoTag where
  inj a b h := by
    have := String.ofList_injective h
    simp only [List.cons.injEq, true_and] at this
    refine (List.map_inj_right ?_).1 this
    intro x y hxy
    have h1 := congrArg Char.toNat hxy
    rw [char_toNat_ofNat _ x.toNat_lt, char_toNat_ofNat _ y.toNat_lt] at h1
    exact UInt8.toNat_inj.1 h1
  nonempty a h := by
    have := congrArg String.toList h
    simp [demoTag] at this

def idA : Id := [0xAA, 0x00]
def idB : Id := []

/-- A program with the empty value, NUL-containing values, a stale handle and a missing log. -/
def demoProgram : List Cmd :=
  [.fetch idA, .create idA [], .create idA [1], .fetch idA, .replace 0 [0, 0], .replace 0 [7],
   .fetch idA, .replace 2 [], .fetch idB, .replace 9 [1]]

example : specRun demoProgram =
    [.notFound, .ok, .exists_, .val [], .ok, .conflict, .val [0, 0], .ok, .notFound, .badHandle] := by
  decide

example : (Sqlite.backend Sqlite.program).run demoProgram = specRun demoProgram :=
  C05_refines_sqlite _

/-- The tie matters: the statement tables of realistic mutants do *not* refine the specification. -/
example : (Sqlite.backend { Sqlite.program with replaceStmt := .update false }).run demoProgram
    ≠ specRun demoProgram := by decide
example : (Sqlite.backend { Sqlite.program with replaceChecksChanges := false }).run demoProgram
    ≠ specRun demoProgram := by decide
example : (Sqlite.backend { Sqlite.program with createStmt := .insert .doUpdate }).run demoProgram
    ≠ specRun demoProgram := by decide
example : (Dynamo.backend { Dynamo.program with replaceCond := .none }).run demoProgram
    ≠ specRun demoProgram := by decide
example : (Dynamo.backend { Dynamo.program with createCond := .none }).run demoProgram
    ≠ specRun demoProgram := by decide
example : (Dynamo.backend { Dynamo.program with consistentRead := false }).run demoProgram
    ≠ specRun demoProgram := by decide
example : (ETag.backend demoTag { ETag.program with replaceIfMatch := .absent }).run demoProgram
    ≠ specRun demoProgram := by decide
example : (ETag.backend demoTag { ETag.program with createIfMatch := .absent }).run demoProgram
    ≠ specRun demoProgram := by decide

/-! ### Replace succeeds only if the stored value is the expected one -/

theorem C05_replace_guard (s : State) (id : Id) (old new : Val) :
    (CasSpec.step s (.replace id old new)).2 = .ok ↔ s id = some old :=
  CasSpec.replace_ok_iff s id old new

/-- The same at the level of every backend model: a `Replace` that returns a handle found the
handle's body stored, and stores exactly `new`; one that fails changes nothing. -/
theorem C05_replace_guard_backend {b : Backend} (R : Refinement b) (s : b.S) (h : b.H) (new : Val)
    (hwf : R.wf h) :
    ((b.replace s h new).2 ≠ none → R.abs s (b.hid h) = some (b.hbody h) ∧
        R.abs (b.replace s h new).1 = (R.abs s).set (b.hid h) new) ∧
    ((b.replace s h new).2 = none → R.abs (b.replace s h new).1 = R.abs s) := by
  by_cases hm : R.abs s (b.hid h) = some (b.hbody h)
  · obtain ⟨h', e0, _, _, _, e4⟩ := R.replace_match s h new hwf hm
    exact ⟨fun _ => ⟨hm, e4⟩, fun hn => by rw [e0] at hn; cases hn⟩
  · obtain ⟨e0, e4⟩ := R.replace_differ s h new hwf hm
    exact ⟨fun hn => absurd e0 hn, fun _ => e4⟩

example : (CasSpec.step (State.empty.set idA [0]) (.replace idA [0] [])).2 = .ok := by decide
example : (CasSpec.step (State.empty.set idA [0]) (.replace idA [] [1])).2 = .conflict := by decide

/-! ### Create succeeds at most once and never overwrites -/

/-- Create on an existing log changes nothing and is refused. -/
theorem C05_create_never_overwrites (s : State) (id : Id) (v w : Val) (h : s id = some v) :
    CasSpec.step s (.create id w) = (s, .exists_) := by
  simp [CasSpec.step, h]

theorem C05_create_never_overwrites_backend {b : Backend} (R : Refinement b) (s : b.S) (id : Id)
    (w : Val) (h : R.abs s id ≠ none) :
    (b.create s id w).2 = false ∧ R.abs (b.create s id w).1 = R.abs s :=
  R.create_taken s id w h

/-- In a linearizable history at most one create per log ID succeeds, and none if it existed. -/
theorem C05_create_once (s : State) (h : History) (lin : Linearizable s h) (id : Id) :
    (h.filter (Event.okCreate id)).length ≤ 1 ∧
    (s id ≠ none → h.filter (Event.okCreate id) = []) := by
  have hle := lin.okCreate_add_le id
  refine ⟨Nat.le_trans (Nat.le_add_right _ _) hle, fun hex => List.eq_nil_of_length_eq_zero ?_⟩
  cases hs : s id with
  | none => exact absurd hs hex
  | some v => simpa [hs] using hle

/-! ### The verified linearisation-witness checker -/

theorem C05_check_sound (h : History) (σ : List Nat) (hc : checkWitness h σ = true) :
    Linearizable State.empty h :=
  ⟨_, checkWitnessFrom_sound State.empty h σ hc⟩

theorem C05_check_sound_from (s : State) (h : History) (σ : List Nat)
    (hc : checkWitnessFrom s h σ = true) : Linearizable s h :=
  ⟨_, checkWitnessFrom_sound s h σ hc⟩

/-- Two overlapping replaces from the same value, one wins; a fetch that overlaps both. -/
def demoHist : History :=
  [⟨.create idA [], .ok, 0, 1⟩,
   ⟨.replace idA [] [1], .conflict, 2, 7⟩,
   ⟨.replace idA [] [0, 0], .ok, 3, 5⟩,
   ⟨.fetch idA, .val [], 4, 6⟩,
   ⟨.fetch idA, .val [0, 0], 8, 9⟩]

example : checkWitness demoHist [0, 3, 2, 1, 4] = true := by decide
/-- the checker rejects an order that breaks real time, and one the register does not produce -/
example : checkWitness demoHist [3, 0, 2, 1, 4] = false := by decide
example : checkWitness demoHist [0, 1, 2, 3, 4] = false := by decide
example : checkWitness demoHist [0, 3, 2, 1] = false := by decide
example : Linearizable State.empty demoHist := C05_check_sound _ [0, 3, 2, 1, 4] (by decide)

/-! ### Read-after-write -/

/-- In a linearisation, a fetch invoked after a successful replace returned is ordered after it and
returns the value of the last successful write in between, or the replace's own value. -/
theorem C05_read_after_write_precise (s : State) (h : History) (evs : List Event)
    (lin : LinearizedBy s h evs) (r f : Event) (id : Id) (old new : Val)
    (hr : r ∈ h) (hf : f ∈ h)
    (hrop : r.op = .replace id old new) (hrok : r.res = .ok) (hfop : f.op = .fetch id)
    (hrt : r.ret < f.inv) :
    ∃ pre mid post, evs = pre ++ r :: (mid ++ f :: post) ∧ f.res = .val (lastWrite id new mid) := by
  obtain ⟨hp, hpw, ha⟩ := lin
  exact read_after_write_lin s evs r f id old new hpw ha (hp.mem_iff.2 hr) (hp.mem_iff.2 hf)
    hrop hrok hfop hrt

/-- Read-after-write: the fetch sees that value or a later one — the value of a successful write
to the same id that is neither real-time-before the replace nor real-time-after the fetch. It never
reports the log missing and never returns an older value (unless someone wrote it again). -/
theorem C05_read_after_write (s : State) (h : History) (lin : Linearizable s h)
    (r f : Event) (id : Id) (old new : Val) (hr : r ∈ h) (hf : f ∈ h)
    (hrop : r.op = .replace id old new) (hrok : r.res = .ok) (hfop : f.op = .fetch id)
    (hrt : r.ret < f.inv) :
    ∃ v, f.res = .val v ∧
      (v = new ∨ ∃ e ∈ h, e.wrote id = some v ∧ mayPrecede r e ∧ mayPrecede e f) := by
  obtain ⟨evs, lin⟩ := lin
  obtain ⟨pre, mid, post, rfl, hres⟩ :=
    C05_read_after_write_precise s h _ lin r f id old new hr hf hrop hrok hfop hrt
  refine ⟨_, hres, (lastWrite_cases id mid new).imp_right fun ⟨e, he, hw⟩ => ?_⟩
  -- `e` lies between `r` and `f` in the linearisation
  obtain ⟨hp, hpw, _⟩ := lin
  have hrest := List.pairwise_cons.1 (List.pairwise_append.1 hpw).2.1
  exact ⟨e, hp.mem_iff.1 (by simp [he]), hw, hrest.1 e (by simp [he]),
    (List.pairwise_append.1 hrest.2).2.2 e he f (by simp)⟩

example : ∃ v, (demoHist[4]'(by decide)).res = .val v ∧ v = [0, 0] := ⟨_, rfl, rfl⟩

/-! ### At most one successful replace per predecessor value -/

/-- `_partial`: needs `FreshWrites` (every successfully written value of an id is new). Sunlight's
own writes satisfy it (strictly increasing checkpoint timestamps, invariant I1 of the sequencer
model). Without it the statement is false for any value-comparing CAS: `C05_aba_witness`. -/
theorem C05_one_successor_partial (s : State) (h : History) (fresh : FreshWrites s h)
    (lin : Linearizable s h) : OneSuccessor h :=
  fun id old => Nat.le_trans (lin.okReplace_le_count id old) (List.nodup_iff_count.1 (fresh id) old)

/-- A → B → A → C: linearizable (even sequential), yet two successful replaces from `A`. -/
def abaHist : History :=
  [⟨.create idA [0xA], .ok, 0, 1⟩,
   ⟨.replace idA [0xA] [0xB], .ok, 2, 3⟩,
   ⟨.replace idA [0xB] [0xA], .ok, 4, 5⟩,
   ⟨.replace idA [0xA] [0xC], .ok, 6, 7⟩]

theorem C05_aba_witness : ¬ ∀ h, Linearizable State.empty h → OneSuccessor h := by
  intro H
  have h1 : Linearizable State.empty abaHist := C05_check_sound _ [0, 1, 2, 3] (by decide)
  have h2 := H abaHist h1 idA [0xA]
  exact absurd h2 (by decide)

/-- Non-vacuity of `FreshWrites`: the demo history has fresh writes (so the theorem applies). -/
example : OneSuccessor demoHist :=
  C05_one_successor_partial State.empty demoHist
    (by
      intro id
      by_cases h : idA = id
      · subst h; decide
      · simp [demoHist, List.filterMap_cons, Event.wrote, h])
    (C05_check_sound _ [0, 3, 2, 1, 4] (by decide))

end C05
