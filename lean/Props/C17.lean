import Proofs.SeqInv2
/-! C17 — Admission control is bounded, priority-respecting and never strands a submitter. -/
namespace C17
open Seq

/-- A pool never holds more entries than the configured size (between an evicting admission and the
    report of its victim — one atomic step of the real code — the newcomer is counted once extra),
    and a pool being sequenced never does. -/
theorem C17_bound {s : Sys} (r : Reachable s) (hn : s.poolSize > 0) (i : Nat) :
    ((s.insts i).evictPending = false → (s.insts i).pool.length ≤ s.poolSize) ∧
    ((s.insts i).evictPending = true → (s.insts i).pool.length = s.poolSize + 1) ∧
    (∀ rd, (s.insts i).phase = .round rd → rd.slots.length ≤ s.poolSize) := by
  obtain ⟨h1, h2, h3⟩ := (inv2_reachable r).pool i hn
  refine ⟨fun he => ?_, h2, h3⟩
  simpa [he] using h1

/-- full pool, low-priority submission: rejected -/
theorem C17_full_low_rejected (n : Nat) (pool : List Slot) (hn : n > 0) (hfull : pool.length ≥ n) :
    admission n pool true = .ratelimit := by
  simp [admission, hn, hfull]

/-- full pool, high-priority submission, no low-priority entry pending: rejected -/
theorem C17_full_high_nolow_rejected (n : Nat) (pool : List Slot) (hn : n > 0) (hfull : pool.length ≥ n)
    (hno : pool.any (·.low) = false) : admission n pool false = .ratelimit := by
  simp [admission, hn, hfull, hno]

/-- full pool, high-priority submission, some low-priority entry pending: admitted (by eviction) -/
theorem C17_full_high_evicts (n : Nat) (pool : List Slot) (hn : n > 0) (hfull : pool.length ≥ n)
    (hlow : pool.any (·.low) = true) : admission n pool false = .sequencer := by
  simp [admission, hn, hfull, hlow]

/-- pool not full: admitted -/
theorem C17_notfull_admitted (n : Nat) (pool : List Slot) (low : Bool) (h : ¬ (n > 0 ∧ pool.length ≥ n)) :
    admission n pool low = .sequencer := by
  simp only [admission, h, if_false]

/-- The report that ends an eviction names the key of a pending low-priority entry and shrinks the pool by exactly
    one, back to its size (the model puts the newcomer in the victim's slot, as `addLeafToPool` does; the victim is
    never sequenced: rounds sequence exactly the pool's slots, `C07_leaf_per_admission`).
    The only other eviction report possible while the eviction is outstanding is a late waiter of an entry evicted
    EARLIER (no pending low-priority slot has its key): it changes nothing and the eviction stays outstanding. -/
theorem C17_evict_exactly_one (s s' : Sys) (i eid key : Nat) (hev : (s.insts i).evictPending = true)
    (h : step s (.nackEvicted i eid key) = some s') :
    ((s'.insts i).evictPending = false ∧ (s'.insts i).pool.length + 1 = (s.insts i).pool.length ∧
      ∃ k, List.findIdx? (fun sl => sl.key == key && sl.low) (s.insts i).pool.dropLast = some k) ∨
    (s' = s ∧ (s.insts i).evictedEver.contains key = true ∧
      (List.findIdx? (fun sl => sl.key == key && sl.low) (s.insts i).pool.dropLast = none ∨ (s.insts i).pool = [])) := by
  cases step_sound h with
  | @nackEvicted _ _ _ nw k _ hlast hfind =>
    refine .inl ⟨by simp [Sys.setInst, upd], ?_, k, hfind⟩
    simp only [Sys.setInst, upd, if_true, List.length_set, List.length_dropLast]
    have hne : (s.insts i).pool ≠ [] := by
      intro he; rw [he] at hlast; simp at hlast
    have := List.length_pos_iff.2 hne
    omega
  | nackEvictedLate hever hnone =>
    refine .inr ⟨rfl, hever, ?_⟩
    cases hf : List.findIdx? (fun sl => sl.key == key && sl.low) (s.insts i).pool.dropLast with
    | none => exact .inl rfl
    | some k =>
      cases hl : (s.insts i).pool.getLast? with
      | none => exact .inr (List.getLast?_eq_none_iff.1 hl)
      | some nw => exact (hnone hev nw k hl hf).elim

/-- while an eviction is outstanding, the report that ends it is the one that removes the victim: the outstanding
    flag is cleared by no other eviction report -/
theorem C17_eviction_ends_by_removal (s s' : Sys) (i eid key : Nat) (hev : (s.insts i).evictPending = true)
    (h : step s (.nackEvicted i eid key) = some s') (hdone : (s'.insts i).evictPending = false) :
    (s'.insts i).pool.length + 1 = (s.insts i).pool.length := by
  rcases C17_evict_exactly_one s s' i eid key hev h with h1 | ⟨h2, _, _⟩
  · exact h1.2.1
  · subst h2; rw [hev] at hdone; cases hdone

/-- After a stop (fatal error) the instance starts no further round and performs no lock operation: no further
    checkpoint is ever signed by it. That it admits nothing either is `C06_stopped_inert`. -/
theorem C17_after_stop (s : Sys) (i : Nat) (hp : (s.insts i).phase = .stopped) :
    step s (.launchRound i) = none ∧ (∀ o n r, step s (.lockReplace i o n r) = none) ∧
    (∀ c r, step s (.lockCreate i c r) = none) := by
  refine ⟨by simp [step, hp], fun o n r => by simp [step, hp], fun c r => by simp [step, hp]⟩

/-- A closed pool has exactly one result: the waiters of a round at `done` get an index (ok) or an error
    (failed/fatal), never both — an acknowledgement needs `done ok` (a cache hit aside), the error answer of a
    waiter needs another outcome. Not stated here: that every round reaches `done` unless its process crashes. -/
theorem C17_one_outcome (s : Sys) (i eid key idx ts : Nat) (rd : Round) (c : Cls)
    (hp : (s.insts i).phase = .round rd) (hpc : rd.pc = .done c)
    (hcache : cacheLookup (s.insts i).cache key ≠ some (idx, ts)) :
    (c ≠ .ok → step s (.ack i eid key idx ts) = none) ∧
    (c = .ok → step s (.nack i eid false) = none) := by
  refine ⟨fun hc => ?_, fun hc => ?_⟩
  · cases c <;> simp_all [step]
  · subst hc; simp [step, hp, hpc]

example : admission 2 [⟨1, 1, true⟩, ⟨2, 2, false⟩] false = .sequencer := by decide
example : admission 2 [⟨1, 1, false⟩, ⟨2, 2, false⟩] false = .ratelimit := by decide

end C17
