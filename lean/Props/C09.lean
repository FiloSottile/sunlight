import Proofs.Submit
/-! C09 — Submissions are validated and turned into the RFC 6962 leaf correctly.

The theorems are about `Model/Submit.lean`: the decision of `add-chain` / `add-pre-chain` over
**abstract certificate facts** (`Req`), the pending entry over opaque bytes, the root pool.
`Tie/C09.lean` ties the check table, status codes, entry assignments, endpoint closures and the
ct-go window comparisons to the current source; `vh submit` + `drv submit` compare the real
`Log.Handler()` with `Submit.handle` request by request.

**Partial by construction** (stated here once): X.509 parsing, signature verification and path
building (`ctfe.ValidateChain`, `x509.Certificate.Verify`), recognising the poison extension and the
CT EKU, and the DER surgery of `x509.BuildPrecertTBS` are library code outside the model; they
enter as the fields of `Req` (`parses`, `linked`, `anchor`, `poison`, `tbsPlain`, `tbsReissued`, …).
That the library establishes those facts as the harness states them is checked on generated
chains by the differential run and, for the entry bytes, by an independent derivation
(ct-go `MerkleTreeLeafFromChain` plus an own DER-level defang). -/
namespace C09
open Submit

/-- endpoint matches the type of the submission, with the structural preconditions of a precertificate -/
def TypeOk (r : Req) (ch : List Cert) : Prop :=
  (r.poison = .none ∧ r.endpoint = .addChain) ∨
  (r.poison = .valid ∧ r.endpoint = .addPreChain ∧ 2 ≤ ch.length ∧
    (usesPreIssuer ch = true → 3 ≤ ch.length) ∧ r.defangOk = true)

/-- The five checks after validation say that the submission was sent to the endpoint for its type. -/
theorem typeOk_iff (r : Req) (ch : List Cert) :
    TypeOk r ch ↔ decide (r.poison = .invalid) = false ∧
      (isPrecert r && decide (ch.length < 2)) = false ∧
      (isPrecert r && usesPreIssuer ch && decide (ch.length < 3)) = false ∧
      (isPrecert r && !r.defangOk) = false ∧ typeRefused r.endpoint (isPrecert r) = false := by
  unfold TypeOk isPrecert typeRefused
  cases r.poison <;> cases r.endpoint <;> simp [Nat.not_lt]

/-- The table of checks, row by row, in terms of the request. -/
theorem checks_pass_iff (c : Config) (roots : List Bytes) (r : Req) :
    (∀ k ∈ checks, k.fails c roots r = false) ↔
      r.body = .ok ∧ r.chain ≠ [] ∧ validateChain c roots r = some (vchain c roots r) ∧
        TypeOk r (vchain c roots r) := by
  have hbody : r.body = .ok ↔
      decide (r.body = .tooLarge) = false ∧ decide (r.body = .malformed) = false := by
    cases r.body <;> simp
  have hval : validateChain c roots r = some (vchain c roots r) ↔
      (validateChain c roots r).isNone = false := by
    unfold vchain; cases validateChain c roots r <;> simp
  simp only [checks, List.forall_mem_cons, List.not_mem_nil, false_imp_iff, implies_true, and_true,
    Check.fails, hbody, hval, typeOk_iff, List.isEmpty_eq_false_iff, and_assoc]

/-- **C09_accept_iff.** A submission is admitted exactly when the body is well-formed and its chain
not empty, the chain verifies (all submitted certificates, in order) to a *currently accepted* root,
`start ≤ NotAfter < limit`, the leaf has the serverAuth EKU, and it was sent to the endpoint
matching its type (a precertificate additionally needs its issuer — and the issuer of a
precertificate signing certificate — in the verified chain, and a TBS that `x509.BuildPrecertTBS`
can build: it refuses e.g. a second poison extension). -/
theorem C09_accept_iff (c : Config) (roots : List Bytes) (r : Req) :
    (admission c roots r).isAdmit = true ↔
      r.body = .ok ∧ r.chain ≠ [] ∧
      ∃ ch, verifiesToRoot roots r = some ch ∧
        c.start ≤ r.notAfter ∧ r.notAfter < c.limit ∧ r.serverAuth = true ∧ TypeOk r ch := by
  rw [isAdmit_iff, checks_pass_iff]
  refine and_congr_right fun _ => and_congr_right fun _ =>
    ⟨fun ⟨hv, ht⟩ => ?_, fun ⟨ch, h1, h2, h3, h4, ht⟩ => ?_⟩
  · obtain ⟨h1, h2, h3, h4⟩ := validateChain_eq_some.1 hv
    exact ⟨_, h1, h2, h3, h4, ht⟩
  · have hv := validateChain_eq_some.2 ⟨h1, h2, h3, h4⟩
    rw [vchain_of_validate hv]
    exact ⟨hv, ht⟩

/-- the verified chain leads to a root that is in the pool *now* (and is otherwise the submitted
chain, in order, plus that root if it was not submitted) -/
theorem C09_accept_root_is_current (roots : List Bytes) (r : Req) (ch : List Cert)
    (h : verifiesToRoot roots r = some ch) :
    r.anchor.der ∈ roots ∧ r.linked = true ∧ r.parses = true ∧
      (ch = r.chain ∨ ch = r.chain ++ [r.anchor]) := by
  obtain ⟨⟨hp, hl, hr⟩, rfl⟩ := verifiesToRoot_eq_some.1 h
  exact ⟨hr, hl, hp, by split <;> simp⟩

/-! Non-vacuity: concrete requests on both sides of every clause. -/
def cert (n : UInt8) (ct : Bool := false) : Cert := ⟨[n, 1], [n, 2], ct⟩
def cfg : Config := ⟨1000, 2000⟩
def rootsA : List Bytes := [(cert 9).der]
/-- final certificate, one intermediate, root not submitted -/
def reqCert (na : Int) : Req := { endpoint := .addChain, chain := [cert 1, cert 2], notAfter := na, anchor := cert 9 }
/-- precertificate issued through a precertificate signing certificate (`cert 3 true`) -/
def reqPre : Req := { endpoint := .addPreChain, chain := [cert 1, cert 3 true, cert 2], notAfter := 1500, anchor := cert 9,
                       poison := .valid, tbsPlain := [7], tbsReissued := [8] }

example : (admission cfg rootsA (reqCert 1000)).isAdmit = true := by decide   -- NotAfter = start: in
example : (admission cfg rootsA (reqCert 999)).isAdmit = false := by decide   -- start - 1: out
example : (admission cfg rootsA (reqCert 1999)).isAdmit = true := by decide   -- limit - 1: in
example : (admission cfg rootsA (reqCert 2000)).isAdmit = false := by decide  -- NotAfter = limit: out
example : (admission cfg [] (reqCert 1500)).isAdmit = false := by decide      -- root not accepted (any more)
example : (admission cfg rootsA { reqCert 1500 with endpoint := .addPreChain }).isAdmit = false := by decide
example : (admission cfg rootsA { reqCert 1500 with serverAuth := false }).isAdmit = false := by decide
example : (admission cfg rootsA { reqCert 1500 with linked := false }).isAdmit = false := by decide
example : (admission cfg rootsA reqPre).isAdmit = true := by decide
example : (admission cfg rootsA { reqPre with endpoint := .addChain }).isAdmit = false := by decide
example : (admission cfg rootsA { reqPre with poison := .invalid }).isAdmit = false := by decide
-- a precertificate signing certificate that is itself the root: no issuer for it
example : (admission cfg [(cert 3 true).der] { reqPre with chain := [cert 1], anchor := cert 3 true }).isAdmit = false := by decide

/-! ### rejected ⇒ client error, nothing enters a pool -/

/-- **C09_reject_no_leaf.** A POST that is not admitted is answered with a 4xx status and leaves the
state (pool, issuer objects, roots) untouched. -/
theorem C09_reject_no_leaf (c : Config) (s : State) (r : Req) (w : Wait) (hm : r.method = .post)
    (hrej : (admission c s.roots r).isAdmit = false) :
    (handle c s r w).1 = s ∧ 400 ≤ (handle c s r w).2.status ∧ (handle c s r w).2.status < 500 := by
  cases ha : admission c s.roots r with
  | admit e ch => rw [ha] at hrej; cases hrej
  | reject k =>
    rw [handle_reject hm ha]
    exact ⟨rfl, k.status_client⟩

/-- Requests with another method never reach the decision: 204 / 405, state untouched. -/
theorem C09_other_methods_no_leaf (c : Config) (s : State) (r : Req) (w : Wait) (hm : r.method ≠ .post) :
    (handle c s r w).1 = s ∧ ((handle c s r w).2.status = 204 ∨ (handle c s r w).2.status = 405) := by
  rcases handle_not_post hm c s w with h | h <;> rw [h]
  · exact ⟨rfl, Or.inl rfl⟩
  · exact ⟨rfl, Or.inr rfl⟩

/-- Conversely: whenever the pool changes, the request was an admitted POST; and only an admitted
and sequenced POST is answered 200. -/
theorem C09_pool_only_by_admission (c : Config) (s : State) (r : Req) (w : Wait)
    (h : (handle c s r w).1.pool ≠ s.pool ∨ (handle c s r w).2.status = 200) :
    r.method = .post ∧ (admission c s.roots r).isAdmit = true := by
  -- otherwise one of the two theorems above applies: state untouched, status not 200
  refine Decidable.byContradiction fun hn => ?_
  have hs : (handle c s r w).1 = s ∧ (handle c s r w).2.status ≠ 200 := by
    by_cases hm : r.method = .post
    · have := C09_reject_no_leaf c s r w hm (by simpa [hm] using hn)
      exact ⟨this.1, by omega⟩
    · have := C09_other_methods_no_leaf c s r w hm
      exact ⟨this.1, by omega⟩
  rcases h with h | h
  · exact h (by rw [hs.1])
  · exact hs.2 h

example : (handle cfg { roots := rootsA } (reqCert 2000)).2.status = 400 := by decide
example : (handle cfg { roots := rootsA } { reqCert 1500 with body := .tooLarge }).2.status = 413 := by decide
example : (handle cfg { roots := rootsA } { reqPre with defangOk := false }).2.status = 400 := by decide
example : (handle cfg { roots := rootsA } (reqCert 1500)).2.status = 200 ∧
    (handle cfg { roots := rootsA } (reqCert 1500)).1.pool.length = 1 := by decide
example : (handle cfg { roots := rootsA } { reqCert 1500 with method := .options }).2.status = 204 := by decide

/-! ### the entry that is logged -/

/-- **C09_ikh_choice.** For an admitted submission: a final certificate is logged as itself with a
zero issuer key hash; a precertificate is logged as its defanged TBS, with the key hash of
`chain[1]` — or, when `chain[1]` is a precertificate signing certificate, with the key hash of
`chain[2]` and the re-issued TBS — and the submitted precertificate is kept. -/
theorem C09_ikh_choice (c : Config) (roots : List Bytes) (r : Req) (e : Pending) (ch : List Cert)
    (h : admission c roots r = .admit e ch) :
    ∃ leaf rest, ch = leaf :: rest ∧
    (r.poison = .none → e.isPrecert = false ∧ e.certificate = leaf.der ∧ e.issuerKeyHash = zeros32 ∧ e.preCertificate = []) ∧
    (r.poison = .valid → e.isPrecert = true ∧ e.preCertificate = leaf.der ∧
      ∃ i rest', rest = i :: rest' ∧
        (i.ctEku = false → e.issuerKeyHash = i.spkiHash ∧ e.certificate = r.tbsPlain) ∧
        (i.ctEku = true → e.certificate = r.tbsReissued ∧ ∃ j rest'', rest' = j :: rest'' ∧ e.issuerKeyHash = j.spkiHash)) := by
  obtain ⟨hall, rfl, rfl⟩ := admit_inv h
  obtain ⟨-, hne, hv, ht⟩ := (checks_pass_iff c roots r).1 hall
  -- the verified chain extends the submitted one, which is not empty
  obtain ⟨leaf, rest, hch⟩ : ∃ leaf rest, vchain c roots r = leaf :: rest := by
    obtain ⟨x, tl, hc⟩ := List.exists_cons_of_ne_nil hne
    obtain ⟨-, -, -, e | e⟩ := C09_accept_root_is_current roots r _ (validateChain_eq_some.1 hv).1 <;> rw [e, hc]
    · exact ⟨x, tl, rfl⟩
    · exact ⟨x, tl ++ [r.anchor], rfl⟩
  rw [hch] at ht ⊢
  refine ⟨leaf, rest, rfl, fun hp => ?_, fun hp => ?_⟩
  · rw [entryOf_final (by simp [isPrecert, hp])]
    exact ⟨rfl, rfl, rfl, rfl⟩
  · have hpre : isPrecert r = true := by simp [isPrecert, hp]
    obtain ⟨hp', -⟩ | ⟨-, -, h2, h3, -⟩ := ht
    · rw [hp] at hp'; cases hp'
    · obtain ⟨i, rest', rfl⟩ := List.exists_cons_of_length_pos (Nat.le_of_succ_le_succ h2)
      cases hi : i.ctEku with
      | false =>
        rw [entryOf_precert hpre hi]
        exact ⟨rfl, rfl, i, rest', rfl, fun _ => ⟨rfl, rfl⟩, fun h => nomatch hi.symm.trans h⟩
      | true =>
        obtain ⟨j, rest'', rfl⟩ := List.exists_cons_of_length_pos
          (Nat.le_of_succ_le_succ (Nat.le_of_succ_le_succ (h3 hi)))
        rw [entryOf_precert_reissued hpre hi]
        exact ⟨rfl, rfl, i, _, rfl, (fun h => nomatch h.symm.trans hi),
          fun _ => ⟨rfl, j, rest'', rfl, rfl⟩⟩

example : ∃ e ch, admission cfg rootsA reqPre = .admit e ch ∧
    e.issuerKeyHash = (cert 2).spkiHash ∧ e.certificate = [8] ∧ e.preCertificate = (cert 1).der ∧
    e.issuers = [(cert 3).der, (cert 2).der, (cert 9).der] := ⟨_, _, rfl, by decide⟩
-- without the CT EKU on chain[1], the same chain is logged under chain[1]'s key with the plain TBS
example : ∃ e ch, admission cfg rootsA { reqPre with chain := [cert 1, cert 3, cert 2] } = .admit e ch ∧
    e.issuerKeyHash = (cert 3).spkiHash ∧ e.certificate = [7] := ⟨_, _, rfl, by decide⟩

/-! ### issuers -/

/-- the issuer half of invariant I3 (DESIGN.md §7), already at the pool: every certificate a pooled entry names as
issuer is stored -/
def IssuersStored (s : State) : Prop := ∀ e ∈ s.pool, ∀ i ∈ e.issuers, i ∈ s.issuers

/-- **C09_issuers.** For an admitted submission the issuers of the entry are exactly the verified
chain without the leaf (so including the root), every one of them is stored in every state
`addLeafToPool` goes through in which the entry is in a pool — i.e. *before* it enters — and they
are stored afterwards whatever the sequencer reports. -/
theorem C09_issuers (c : Config) (s : State) (r : Req) (w : Wait) (e : Pending) (ch : List Cert)
    (hm : r.method = .post) (h : admission c s.roots r = .admit e ch) :
    e.issuers = ch.tail.map (·.der) ∧
    (∀ st ∈ admitTrace s e, ∀ i ∈ e.issuers, e ∈ st.pool → i ∈ st.issuers) ∧
    (∀ i ∈ e.issuers, i ∈ (handle c s r w).1.issuers) := by
  -- the uploads store them; entering the pool touches no issuer object
  have hup := uploadIssuers_has s e
  have hent : ∀ i ∈ e.issuers, i ∈ (enterPool (uploadIssuers s e) e).issuers := by
    rw [enterPool_issuers]; exact hup
  refine ⟨(admit_inv h).2.2 ▸ entryOf_issuers r ch, fun st hst i hi _ => ?_, fun i hi => ?_⟩
  · simp only [admitTrace, List.mem_cons, List.not_mem_nil, or_false] at hst
    rcases hst with rfl | rfl
    · exact hup i hi
    · exact hent i hi
  · rw [handle_admit hm h]
    split
    · exact hup i hi
    · exact hent i hi

theorem IssuersStored.uploadIssuers {s : State} (h : IssuersStored s) (e : Pending) :
    IssuersStored (uploadIssuers s e) :=
  fun x hx i hi => (mem_uploadIssuers s e i).2 (.inl (h x hx i hi))

theorem IssuersStored.enterPool {s : State} (h : IssuersStored s) {e : Pending}
    (he : ∀ i ∈ e.issuers, i ∈ s.issuers) : IssuersStored (enterPool s e) := by
  intro x hx i hi
  rw [enterPool_issuers]
  rcases enterPool_mem s e x hx with hx | rfl
  · exact h x hx i hi
  · exact he i hi

theorem IssuersStored.handle {s : State} (h : IssuersStored s) (c : Config) (r : Req) (w : Wait) :
    IssuersStored (handle c s r w).1 := by
  rcases handle_state c s r w with e | ⟨e, e' | e'⟩
  · rw [e]; exact h
  · rw [e']; exact h.uploadIssuers e
  · rw [e']; exact (h.uploadIssuers e).enterPool (uploadIssuers_has s e)

/-- I3 is an invariant of every operation sequence (issuer objects are never removed). -/
theorem C09_issuers_invariant (c : Config) (ops : List Op) (s : State) (h : IssuersStored s) :
    IssuersStored (run c s ops) := by
  induction ops generalizing s with
  | nil => exact h
  | cons op rest ih =>
    apply ih
    cases op with
    | restart => exact h
    | submit r w => exact h.handle c r w
    | setRoots pem =>
      -- a reload changes the roots only
      show IssuersStored (Submit.setRoots s pem).1
      unfold Submit.setRoots
      split <;> exact h

example : IssuersStored ({} : State) := by intro e he; cases he

/-- **C09_issuer_fault.** A storage fault on an issuer upload (`hnew`: some issuer of the entry is not stored yet;
otherwise no upload is attempted): the request is answered 500, stores nothing and
leaves no leaf (the entry reaches no pool) — so the retry starts from the same state and, succeeding, stores
every chain certificate before the entry enters a pool (`C09_issuers`). -/
theorem C09_issuer_fault (c : Config) (s : State) (r : Req) (e : Pending) (ch : List Cert)
    (hm : r.method = .post) (h : admission c s.roots r = .admit e ch)
    (hnew : e.issuers.all (fun i => s.issuers.contains i) = false) :
    handleIssuerFault c s r = (s, ⟨500, some (.admit e ch)⟩) := by
  unfold handleIssuerFault
  rw [hm]
  simp only [h, hnew]
  rfl

/-- whatever the request, a faulted issuer upload keeps I3; it never adds to a pool beyond what the
unfaulted handler would (`handleIssuerFault_state`) -/
theorem C09_issuer_fault_invariant (c : Config) (s : State) (r : Req) (h : IssuersStored s) :
    IssuersStored (handleIssuerFault c s r).1 := by
  rcases handleIssuerFault_state c s r with e | e <;> rw [e]
  · exact h.handle c r .sequenced
  · exact h

/-! ### roots -/

/-- **C09_roots.** After any sequence of operations `get-roots` reports exactly the bundle of the
last successful `SetRootsFromPEM` (first occurrences, in order) — submissions, failed reloads and
restarts do not change it —, without duplicates (`C09_roots_exact`); and (`C09_accept_iff`) each
request is decided against the pool current at that moment. -/
theorem C09_roots (c : Config) (ops : List Op) (s : State) :
    getRoots (run c s ops) = (match lastGoodRoots ops with
      | some l => poolOrder l
      | none => s.roots) := by
  induction ops generalizing s with
  | nil => rfl
  | cons op rest ih =>
    show getRoots (run c (step c s op) rest) = _
    rw [ih]
    cases hl : lastGoodRoots rest with
    | some l => simp only [lastGoodRoots, hl]
    | none =>
      simp only [lastGoodRoots, hl]
      cases op with
      | restart => rfl
      | submit r w => exact handle_roots c s r w
      | setRoots pem => rcases pem with _ | _ | _ <;> rfl

theorem C09_roots_exact (l : List Bytes) : (∀ x, x ∈ poolOrder l ↔ x ∈ l) ∧ (poolOrder l).Nodup :=
  ⟨mem_poolOrder l, nodup_poolOrder l⟩

/-- an unparsable or empty bundle is refused and changes nothing -/
theorem C09_roots_bad_bundle (s : State) : Submit.setRoots s none = (s, false) ∧ Submit.setRoots s (some []) = (s, false) :=
  ⟨rfl, rfl⟩

/-- a reload whose bundle the storage refuses to persist fails and changes nothing: validation and get-roots keep
    using the old pool, whatever the new bundle was (the persisted `_roots.pem`, from which a restart reloads, is the
    old one too) -/
theorem C09_roots_persist_failure (s : State) (pem : Option (List Bytes)) :
    Submit.setRootsStored s pem false = (s, false) ∧
    getRoots (Submit.setRootsStored s pem false).1 = getRoots s ∧
    Submit.setRootsStored s pem true = Submit.setRoots s pem :=
  ⟨rfl, rfl, rfl⟩

example : getRoots (run cfg {} [.setRoots (some [[1], [2], [1]]), .submit (reqCert 1500) .sequenced, .setRoots none,
    .setRoots (some []), .restart]) = [[1], [2]] := by decide
-- a reload that drops the root turns the same submission from accepted into rejected
example : (handle cfg (run cfg {} [.setRoots (some rootsA)]) (reqCert 1500)).2.status = 200 ∧
    (handle cfg (run cfg {} [.setRoots (some rootsA), .setRoots (some [[5]])]) (reqCert 1500)).2.status = 400 := by decide

end C09
