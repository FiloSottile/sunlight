import Proofs.SeqInv2
import Proofs.SeqDemo
/-! C07 — Resubmissions get the identical SCT and leaf indexes are assigned exactly once. -/
namespace C07
open Seq

/-- Every acknowledgement — from the sequencing round, the pool, the in-sequencing map or the
    deduplication cache — names an index that really holds that entry with that timestamp in a
    published tree. `Reachable` includes cache losses (`cacheLose`), so losing the cache can never
    produce a wrong acknowledgement. -/
theorem C07_ack_true {s : Sys} (r : Reachable s) :
    ∀ a ∈ s.acks, ∃ c ∈ s.pubHist, ∃ l, c.leaves[a.idx]? = some l ∧ l.key = a.key ∧ l.ts = a.ts :=
  (inv2_reachable r).acks

/-- The cache only ever holds leaves of published trees (whatever was lost or kept). -/
theorem C07_cache_true {s : Sys} (r : Reachable s) (i : Nat) :
    ∀ e ∈ (s.insts i).cache, ∃ c ∈ s.pubHist, ∃ l, c.leaves[e.2.1]? = some l ∧ l.key = e.1 ∧ l.ts = e.2.2 :=
  (inv2_reachable r).cache i

/-- A submission resolved by the current pool, the pool being sequenced or the cache adds no leaf:
    the state (pools included) is unchanged. -/
theorem C07_no_extra_leaf (s s' : Sys) (i eid key : Nat) (low : Bool) (iss : List Nat) (src : Src)
    (hsrc : src = .pool ∨ src = .cache) (h : step s (.submitted i eid key low iss src) = some s') : s' = s :=
  submitted_noop s s' i eid key low iss src (by rcases hsrc with h | h <;> simp [h]) h

/-- Lookup order: an entry whose key is pending, being sequenced or cached is never admitted a second time. -/
theorem C07_dedup_order (s s' : Sys) (i eid key : Nat) (low : Bool) (iss : List Nat)
    (hdup : (s.insts i).pool.any (·.key == key) = true ∨ inSequencing (s.insts i) key = true ∨
            (cacheLookup (s.insts i).cache key).isSome = true)
    (h : step s (.submitted i eid key low iss .sequencer) = some s') : False := by
  obtain ⟨_, _, h⟩ := submitted_inv h
  rcases h with ⟨h, _⟩ | ⟨h, _⟩ | ⟨h, _⟩ | ⟨h, _⟩ | ⟨hp, hq, hc, _⟩
  any_goals cases h
  rcases hdup with hd | hd | hd <;> simp_all

/-- Each leaf a round appends comes from exactly one slot of the pool being sequenced (one admitted
    submission), in slot order, all with the round's timestamp. -/
theorem C07_leaf_per_admission (s s' : Sys) (i v : Nat) (rd : Round)
    (hph : (s.insts i).phase = .round rd) (hpc : rd.pc = .clock) (hv : (s.insts i).tree.time < v)
    (h : step s (.clock i v) = some s') :
    ∃ rd', (s'.insts i).phase = .round rd' ∧
      rd'.new.leaves = (s.insts i).tree.leaves ++ rd.slots.map (fun sl => ⟨sl.eid, sl.key, v⟩) := by
  obtain ⟨rd', h1, _, h3⟩ := round_new_tree s s' i v rd hph hpc hv h
  exact ⟨rd', h1, by rw [h3]; rfl⟩

/-- Two acknowledgements that name the same index agree on the timestamp and on the dedup class
    (the leaf at an index never changes: all published trees are prefixes of one another). -/
theorem C07_same_index_same_ts {s : Sys} (r : Reachable s) (a b : Ack) (ha : a ∈ s.acks) (hb : b ∈ s.acks)
    (hidx : a.idx = b.idx) : a.ts = b.ts ∧ a.key = b.key := by
  obtain ⟨c, hc, l, hl, hk, ht⟩ := C07_ack_true r a ha
  obtain ⟨d, hd, m, hm, hk', ht'⟩ := C07_ack_true r b hb
  have hinv := inv_reachable r
  have hi1 : a.idx < c.leaves.length := (List.getElem?_eq_some_iff.1 hl).1
  have hi2 : a.idx < d.leaves.length := hidx ▸ (List.getElem?_eq_some_iff.1 hm).1
  -- the two trees are committed ones, so they hold the same leaf at the common index
  have hlm := hinv.leaf_agree (hinv.pub c hc) (hinv.pub d hd) hi1 hi2
  rw [hl, hidx, hm] at hlm
  cases hlm
  exact ⟨by rw [← ht, ← ht'], by rw [← hk, ← hk']⟩

example : ∃ s, Reachable s ∧ s.acks.length = 1 := by
  obtain ⟨s, h, _, _, ha⟩ := Seq.Demo.demo_runs
  exact ⟨s, ⟨0, _, h⟩, ha⟩

end C07
