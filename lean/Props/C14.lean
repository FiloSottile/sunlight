import Proofs.Witness
/-! C14 — The witness cosigns only one append-only history per log.

Everything here is about `Witness.addCheckpoint = Witness.run Witness.program` (`Model/Witness.lean`),
for an arbitrary interior hash `node` and empty-tree hash `emptyHash`; collision-freeness of
SHA-256 enters as the hypothesis `Merkle.NodeInj node` of the chain theorems and of `C14_fork_refused`
only. `Tie/C14.lean` ties
`Witness.program` to the current source of `witness.go`; `vh witness` + `drv witness` run the real
handler against `addCheckpoint` request by request.

"Cosigned" means: stored in the lock store (`OState.hist`), which contains everything that was
released with a 200 (`released`) and everything that was published (`pub`). A signature computed
for a request whose compare-and-swap did not take effect never leaves `updateCheckpoint`
(`C14_record_before_release`); such messages are still listed in the ghost `signedMsgs`
(`C14_covers_reencoding`).
Outside the model: the byte-level split of a note into text and signature lines, Ed25519/ML-DSA
(symbolic), HTTP, the real lock backends (C05), real concurrency of `l.mu` (sampled by the engine). -/
namespace C14
open Witness Checkpoint

variable (node : Hash → Hash → Hash) (emptyHash : Hash)

/-- All tree heads ever stored for an origin — across any requests, instances, store failures
(applied or not), process deaths and restarts — are, in the order they were stored, of
non-decreasing size and pairwise consistent: whatever leaf list opens a later one, its prefix opens
the earlier one. Everything released or published is among them, and the stored value always
stands for the last of them. -/
theorem C14_cosigned_chain (inj : Merkle.NodeInj node) {cfg : Cfg} {o : Bytes} {st : OState}
    (hr : Reachable node emptyHash cfg o st) :
    st.hist.Pairwise (fun a b => a.1 ≤ b.1 ∧
        ∀ B, Opens node emptyHash b B → Opens node emptyHash a (B.take a.1)) ∧
    (∀ c ∈ st.released, c ∈ st.hist) ∧
    (∀ s, st.pub = some s → ∀ k, ckOfNote o s = some k → k ∈ st.hist) ∧
    (∀ k, ckOf emptyHash o st.lock = some k → st.hist.getLast? = some k) := by
  have h := reachable_inv node emptyHash inj hr
  exact ⟨h.chain, h.rel, h.pub, h.last⟩

/-- the chain by index: an opening of a later stored tree head, cut to the size of an earlier one, opens
the earlier one -/
theorem C14_chain_prefix (inj : Merkle.NodeInj node) {cfg : Cfg} {o : Bytes} {st : OState}
    (hr : Reachable node emptyHash cfg o st) (i j : Nat) (hij : i < j) (hj : j < st.hist.length)
    (B : List Hash) (hB : Opens node emptyHash st.hist[j] B) :
    Opens node emptyHash (st.hist[i]'(by omega)) (B.take (st.hist[i]'(by omega)).1) :=
  ((List.pairwise_iff_getElem.1 (C14_cosigned_chain node emptyHash inj hr).1) i j (by omega) hj hij).2 B hB

/-- `Reachable` is inhabited (runs of the machine: the examples at the end) -/
example (cfg : Cfg) (o : Bytes) : Reachable node emptyHash cfg o (OState.init emptyHash) := .init

/-- A 200 response is produced only after the compare-and-swap on the lock store took effect and
returned success and the upload took effect and returned success, in this order, as the last
operations of the request; the signatures returned are the witness' lines of exactly the note that
is now the stored value and the published object. -/
theorem C14_record_before_release (e : Env) (st : OState) (sigs : List SigLine)
    (h : (addCheckpoint node emptyHash e st).2 = .ok sigs) :
    ∃ s, e.signed = some s ∧ sigs = ownLines e.cfg s ∧
      (∃ serial, (addCheckpoint node emptyHash e st).1.lock = some (s, serial)) ∧
      (addCheckpoint node emptyHash e st).1.pub = some s ∧
      (addCheckpoint node emptyHash e st).1.hist = st.hist ++ [(e.newSize, e.newHash)] ∧
      e.replaceOut = .ok ∧ e.uploadOut = .ok ∧
      ∃ f, (f = [] ∨ f = [Effect.lockFetch e.inst .ok]) ∧
        (addCheckpoint node emptyHash e st).1.log =
          st.log ++ f ++ [.lockReplace e.inst s true .ok, .upload e.inst s true .ok] := by
  have sm := addCheckpoint_summary node emptyHash e st
  rcases sm.core with k | ⟨s, ha, t⟩
  · exact absurd h (k.resp sigs)
  · rcases t.tail with q | rl
    · exact absurd h (q.resp sigs)
    · exact ⟨s, ha.signed, Resp.ok.inj (h.symm.trans rl.resp), ⟨_, t.lock⟩, rl.pub, t.hist, rl.replaceOut, rl.uploadOut,
        sm.log s ha.signed rl.resp⟩

/-- in particular: no signature when the lock write or the upload did not return success -/
theorem C14_no_release_on_failure (e : Env) (st : OState)
    (h : e.replaceOut ≠ .ok ∨ e.uploadOut ≠ .ok) : ∀ sigs, (addCheckpoint node emptyHash e st).2 ≠ .ok sigs := by
  intro sigs hc
  obtain ⟨_, _, _, _, _, _, hr, hu, _⟩ := C14_record_before_release node emptyHash e st sigs hc
  rcases h with h | h
  · exact h hr
  · exact h hu

/-- a failed or unknown-outcome compare-and-swap drops the cached copy (it is re-fetched next time) -/
theorem C14_cache_dropped (e : Env) (st : OState) (v : LockVal) (s : Note)
    (hc : st.cache e.inst = some v) (hs : e.signed = some s) (hr : e.replaceOut = .errA ∨ e.replaceOut = .errN) :
    (execReplace e st).1.cache e.inst = none ∧ (execReplace e st).2 = .fail := by
  unfold execReplace
  simp only [hc, hs]
  by_cases hv : v = st.lock <;> rcases hr with hr | hr <;> simp [hv, hr, Out.seen, OState.setCache]

/-- The lock store is written (a fortiori: a cosignature is returned) only for a well-formed request
for a configured log whose note carries a signature verified under one of that log's keys, whose
checkpoint has no extension lines, whose old size is the size of the tree head *currently in the
lock store*, and whose consistency proof from that tree head verifies (for old size 0: whose proof
is empty). -/
theorem C14_only_with (e : Env) (st : OState)
    (h : (addCheckpoint node emptyHash e st).1.hist ≠ st.hist ∨ ∃ sigs, (addCheckpoint node emptyHash e st).2 = .ok sigs) :
    e.req.body = .ok ∧
    (∃ lc note vs, e.cfg.find e.origin = some lc ∧ e.req.note = .wellformed note ∧
      noteOpen (lc.verifiers.map VKey.verifier) note = .ok vs ∧ vs ≠ [] ∧
      ∀ s ∈ vs, s ∈ note.sigs ∧ ∃ k ∈ lc.verifiers, k.name = s.name ∧ k.hash = s.hash ∧ s.sig = symSig k.key note.text) ∧
    (∃ c, e.ckpt = some c ∧ c.origin = e.origin ∧ c.ext = []) ∧
    (∃ k, openStored emptyHash e.cfg e.origin st.lock = some k ∧ k.1 = e.req.old ∧ e.req.old ≤ e.newSize ∧
      (e.req.old ≠ 0 → Merkle.checkTree node e.req.proof.reverse e.newSize e.newHash k.1 k.2 = true) ∧
      (e.req.old = 0 → e.req.proof = [])) := by
  rcases (addCheckpoint_summary node emptyHash e st).core with k | ⟨s, ha, -⟩
  · rcases h with h | ⟨sigs, h⟩
    · exact absurd k.hist h
    · exact absurd h (k.resp sigs)
  · obtain ⟨vs, hvs⟩ := ha.pre.opened
    obtain ⟨lc, note, hlc, hn, hvs⟩ := opened_ok hvs
    obtain ⟨k, hk, r1, r2, r3⟩ := ha.known
    exact ⟨ha.pre.body, ⟨lc, note, vs, hlc, hn, hvs, noteOpen_keys hvs⟩, ha.pre.ck, k, hk, r1, ha.pre.le, r2, r3⟩

/-- Whatever the witness keys ever signed (released or not) is the canonical encoding
`origin \n size \n base64(root) \n` of a checkpoint of this origin without extension lines, which parses
back to itself. -/
theorem C14_covers_reencoding {cfg : Cfg} {o : Bytes} {st : OState} (hr : Reachable node emptyHash cfg o st) :
    ∀ m ∈ st.signedMsgs, (m.1 = cfg.k1.key ∨ m.1 = cfg.k2.key) ∧
      ∃ c : Checkpoint, c.origin = o ∧ c.ext = [] ∧ m.2 = formatCheckpoint c ∧ parseCheckpoint m.2 = some c := by
  induction hr with
  | init => intro m hm; simp [OState.init] at hm
  | add e st _ hcfg ho ih =>
    intro m hm
    rcases addCheckpoint_signedMsgs node emptyHash e st m hm with h | ⟨hk, c, hc, hco, h1, h2⟩
    · exact ih m h
    · subst hcfg
      exact ⟨hk, { origin := c.origin, n := c.n, hash := c.hash, ext := [] }, hco.trans ho, rfl, h1, h2⟩
  | restart i st _ ih => exact ih

/-- In a 200 response every line is one of the two cosignatures over the canonical encoding of the (origin,
size, root) parsed from the request, or a verified log signature that carries the witness' name
(`splitSignatures` selects by name only). -/
theorem C14_response_lines (e : Env) (st : OState) (sigs : List SigLine)
    (h : (addCheckpoint node emptyHash e st).2 = .ok sigs) :
    ∃ c vs, e.ckpt = some c ∧ e.opened = .ok vs ∧
      ∀ l ∈ sigs,
        l = e.cfg.k1.sign (formatCheckpoint { origin := c.origin, n := c.n, hash := c.hash, ext := [] }) ∨
        l = e.cfg.k2.sign (formatCheckpoint { origin := c.origin, n := c.n, hash := c.hash, ext := [] }) ∨
        (l ∈ vs ∧ l.name = e.cfg.k1.name) := by
  obtain ⟨s, hs, rfl, _⟩ := C14_record_before_release node emptyHash e st sigs h
  obtain ⟨vs, c', ho, hc', -, rfl⟩ := signed_some hs
  obtain ⟨c, hc, rfl⟩ := Option.map_eq_some_iff.1 hc'
  refine ⟨c, vs, hc, ho, fun l hl => ?_⟩
  simp only [ownLines, List.mem_filter, List.mem_append, List.mem_cons, List.mem_nil_iff, or_false,
    beq_iff_eq] at hl
  obtain ⟨⟨hin, _⟩ | rfl | rfl, hname⟩ := hl
  · exact .inr (.inr ⟨hin, hname⟩)
  · exact .inl rfl
  · exact .inr (.inl rfl)

/-- the status codes of the error classes (`serveAddCheckpoint`'s switch) -/
theorem C14_status_codes :
    ErrClass.unknownLog.status = 404 ∧ ErrClass.invalidSignature.status = 403 ∧ ErrClass.conflict.status = 409 ∧
    ErrClass.proof.status = 422 ∧ ErrClass.badRequest.status = 400 ∧ ErrClass.badCheckpoint.status = 400 ∧
    ErrClass.extensions.status = 400 ∧ ErrClass.internal.status = 500 := by decide

/-- Refusals decided before the recorded tree head is consulted, in the order the checks are made:
malformed body 400; unknown log 404; no verified / an invalid log signature 403; other note errors
400; unparsable checkpoint 400; extension lines 400; old size beyond the new size 400; a size-0
tree with a non-empty root 422. None of them touches the state. -/
theorem C14_status_parse (e : Env) (st : OState) :
    (e.req.body ≠ .ok → addCheckpoint node emptyHash e st = (st, .err .badRequest 0)) ∧
    (e.req.body = .ok → e.logCfg = none → addCheckpoint node emptyHash e st = (st, .err .unknownLog 0)) ∧
    (e.req.body = .ok → e.logCfg ≠ none → (e.opened = .error .unverified ∨ e.opened = .error .invalidSignature) →
      addCheckpoint node emptyHash e st = (st, .err .invalidSignature 0)) ∧
    (e.req.body = .ok → e.logCfg ≠ none → ∀ x, e.opened = .error x → x ≠ .unverified → x ≠ .invalidSignature →
      addCheckpoint node emptyHash e st = (st, .err .badRequest 0)) ∧
    (e.req.body = .ok → e.logCfg ≠ none → ∀ vs, e.opened = .ok vs → e.ckpt = none →
      addCheckpoint node emptyHash e st = (st, .err .badCheckpoint 0)) ∧
    (e.req.body = .ok → e.logCfg ≠ none → ∀ vs c, e.opened = .ok vs → e.ckpt = some c → c.origin = e.origin →
      (c.ext ≠ [] → addCheckpoint node emptyHash e st = (st, .err .extensions 0)) ∧
      (c.ext = [] → e.newSize < e.req.old → addCheckpoint node emptyHash e st = (st, .err .badRequest 0)) ∧
      (c.ext = [] → e.req.old ≤ e.newSize → e.newSize = 0 → e.newHash ≠ emptyHash →
        addCheckpoint node emptyHash e st = (st, .err .proof 0))) := by
  refine ⟨fun hb => ?_, fun hb hl => ?_, fun hb hl ho => ?_, fun hb hl x ho h1 h2 => ?_, fun hb hl vs ho hc => ?_,
    fun hb hl vs c ho hc hco => ⟨fun he => ?_, fun he hlt => ?_, fun he hle h0 hne => ?_⟩⟩ <;>
    refine resp_of_pre ?_
  · simp [pre_eval, hb]
  · simp [pre_eval, hb, hl]
  · rcases ho with ho | ho <;> simp [pre_eval, hb, hl, ho]
  · cases x <;> first | cases h1 rfl | cases h2 rfl | simp [pre_eval, hb, hl, ho]
  · simp [pre_eval, hb, hl, ho, hc]
  · simp [pre_eval, hb, hl, ho, hc, hco, he]
  · simp [pre_eval, hb, hl, ho, hc, hco, he, hlt]
  · simp [pre_eval, hb, hl, ho, hc, hco, he, h0, hne, Nat.le_zero.1 (h0 ▸ hle)]

/-- Once those checks have passed and the instance has a view `v` of the recorded tree head
(`View`: its cached copy, or the stored value freshly fetched) that opens as `k`:
an old size different from the recorded size is answered 409 **with the recorded size**; otherwise a
proof that does not verify (for old size 0: a non-empty proof) is answered 422. Nothing is stored. -/
theorem C14_status_recorded (e : Env) (st : OState) (v : LockVal) (k : Nat × Hash)
    (hpre : PreFacts emptyHash e) (hv : View e st v) (hk : openStored emptyHash e.cfg e.origin v = some k) :
    (k.1 ≠ e.req.old → (addCheckpoint node emptyHash e st).2 = .err .conflict k.1 ∧
      (addCheckpoint node emptyHash e st).1.lock = st.lock ∧ (addCheckpoint node emptyHash e st).1.hist = st.hist) ∧
    (k.1 = e.req.old → e.req.old ≠ 0 →
      Merkle.checkTree node e.req.proof.reverse e.newSize e.newHash k.1 k.2 = false →
      (addCheckpoint node emptyHash e st).2 = .err .proof 0 ∧
      (addCheckpoint node emptyHash e st).1.lock = st.lock ∧ (addCheckpoint node emptyHash e st).1.hist = st.hist) ∧
    (k.1 = e.req.old → e.req.old = 0 → e.req.proof ≠ [] →
      (addCheckpoint node emptyHash e st).2 = .err .proof 0 ∧
      (addCheckpoint node emptyHash e st).1.lock = st.lock ∧ (addCheckpoint node emptyHash e st).1.hist = st.hist) := by
  obtain ⟨st1, hf, hkn, _, hl1⟩ := execFetch_view hv hk
  have hh1 := (execFetch_core hf).hist
  have key : ∀ r, firstFail node emptyHash mid e st1 = some r → (addCheckpoint node emptyHash e st).2 = r ∧
      (addCheckpoint node emptyHash e st).1.lock = st.lock ∧ (addCheckpoint node emptyHash e st).1.hist = st.hist :=
    fun r h3 => by rw [resp_of_mid (pre_none_iff.2 hpre) hf h3]; exact ⟨rfl, hl1, hh1⟩
  refine ⟨fun hne => key _ ?_, fun heq h0 hct => key _ ?_, fun heq h0 hp => key _ ?_⟩
  · simp [mid_eval, hkn, hne]
  · simp [mid_eval, hkn, heq, h0, heq ▸ hct]
  · simp [mid_eval, hkn, heq, h0, hp]

/-- …and when everything holds, the instance's view IS the stored value and the stores work, the answer is
200 with the witness' lines of the signed re-encoding (the model is not vacuously safe). -/
theorem C14_status_ok (e : Env) (st : OState) (k : Nat × Hash) (s : Note)
    (hpre : PreFacts emptyHash e) (hv : View e st st.lock) (hk : openStored emptyHash e.cfg e.origin st.lock = some k)
    (hold : k.1 = e.req.old)
    (hproof : if e.req.old ≠ 0 then Merkle.checkTree node e.req.proof.reverse e.newSize e.newHash k.1 k.2 = true
              else e.req.proof = [])
    (hs : e.signed = some s) (hr : e.replaceOut = .ok) (hu : e.uploadOut = .ok) :
    (addCheckpoint node emptyHash e st).2 = .ok (ownLines e.cfg s) := by
  obtain ⟨st1, hf, hkn, hcache, hlock⟩ := execFetch_view hv hk
  have h3 := mid_none_iff.2
    ⟨⟨k, hkn, hold, fun h0 => by simpa [h0] using hproof, fun h0 => by simpa [h0] using hproof⟩, s, hs⟩
  rw [resp_of_commit (pre_none_iff.2 hpre) hf h3]
  exact (afterMid_spec hcache hs).ok hlock.symm hr hu

/-- If the new tree head has an opening whose prefix does NOT open the recorded tree head — the
submitted checkpoint is a fork of what the witness has on record at the same old size (not 0) — the
answer is 422, whatever proof is supplied, and nothing is stored. -/
theorem C14_fork_refused (inj : Merkle.NodeInj node) (e : Env) (st : OState) (v : LockVal) (k : Nat × Hash)
    (hpre : PreFacts emptyHash e) (hv : View e st v) (hk : openStored emptyHash e.cfg e.origin v = some k)
    (hold : k.1 = e.req.old) (h0 : e.req.old ≠ 0)
    (hfork : ∃ B, Opens node emptyHash (e.newSize, e.newHash) B ∧ Merkle.mth node emptyHash (B.take k.1) ≠ k.2) :
    (addCheckpoint node emptyHash e st).2 = .err .proof 0 ∧
    (addCheckpoint node emptyHash e st).1.hist = st.hist ∧ (addCheckpoint node emptyHash e st).1.lock = st.lock := by
  have hct : Merkle.checkTree node e.req.proof.reverse e.newSize e.newHash k.1 k.2 = false := by
    cases hc : Merkle.checkTree node e.req.proof.reverse e.newSize e.newHash k.1 k.2
    · rfl
    · obtain ⟨B, ⟨hl, hm⟩, hne⟩ := hfork
      exact absurd (Merkle.checkTree_sound node emptyHash inj _ _ _ _ _ hc B hl hm) hne
  obtain ⟨a, b, c⟩ := (C14_status_recorded node emptyHash e st v k hpre hv hk).2.1 hold h0 hct
  exact ⟨a, c, b⟩

/-! ### non-vacuity -/
namespace Example

/-- an injective interior hash on byte strings: the length of the left child in unary, then both children -/
def pairNode (a b : Hash) : Hash := List.replicate a.length 1 ++ 0 :: (a ++ b)

/-- the collision-freeness hypothesis of the chain theorem is satisfiable -/
theorem pairNode_inj : Merkle.NodeInj pairNode := by
  intro a b c d h
  obtain ⟨hl, hx⟩ := replicate_sep h
  exact List.append_inj hx hl

/-- a 32-byte "hash" for executable examples (not injective; the examples only run the machine). `pairNode`
cannot carry a run: the parent of two 32-byte roots is longer than 32 bytes, and `parseCheckpoint` demands 32. -/
def nodeE (a b : Hash) : Hash := a.take 16 ++ b.take 16
def emptyE : Hash := List.replicate 32 0

def k1 : VKey := ⟨[119], 1, 0⟩
def k2 : VKey := ⟨[119], 2, 1⟩
def logKey : VKey := ⟨[111], 3, 2⟩
def cfg : Cfg := { k1 := k1, k2 := k2, mirror := none, logs := [⟨[111], [logKey]⟩] }

def leaf0 : Hash := List.replicate 32 7
def leaf1 : Hash := List.replicate 32 9
def leaf0' : Hash := List.replicate 32 8

def text (n : Int) (root : Hash) : Bytes := formatCheckpoint { origin := [111], n := n, hash := root, ext := [] }
def signedBy (k : VKey) (t : Bytes) : NoteForm := .wellformed { text := t, sigs := [k.sign t] }
def env (old : Nat) (proof : List Hash) (note : NoteForm) : Env :=
  { cfg := cfg, inst := 0, req := { body := .ok, old := old, proof := proof, note := note },
    fetchOut := .ok, replaceOut := .ok, uploadOut := .ok }

/-- the log's first checkpoint (size 1) … -/
def env1 : Env := env 0 [] (signedBy logKey (text 1 leaf0))
/-- … its extension to size 2 with the consistency proof `[leaf1]` … -/
def env2 : Env := env 1 [leaf1] (signedBy logKey (text 2 (nodeE leaf0 leaf1)))
/-- … and a fork of size 2 whose first leaf differs, with the same proof -/
def envFork : Env := env 1 [leaf1] (signedBy logKey (text 2 (nodeE leaf0' leaf1)))

def st1 : OState := (addCheckpoint nodeE emptyE env1 (OState.init emptyE)).1
def st2 : OState := (addCheckpoint nodeE emptyE env2 st1).1

example : (addCheckpoint nodeE emptyE env1 (OState.init emptyE)).2 =
    .ok [k1.sign (text 1 leaf0), k2.sign (text 1 leaf0)] := by decide

example : (addCheckpoint nodeE emptyE env2 st1).2 =
    .ok [k1.sign (text 2 (nodeE leaf0 leaf1)), k2.sign (text 2 (nodeE leaf0 leaf1))] := by decide

/-- the reachable state after both: a chain of three tree heads -/
example : Reachable nodeE emptyE cfg [111] st2 ∧
    st2.hist = [(0, emptyE), (1, leaf0), (2, nodeE leaf0 leaf1)] ∧ st2.released = [(1, leaf0), (2, nodeE leaf0 leaf1)] :=
  ⟨.add env2 st1 (.add env1 _ .init rfl (by decide)) rfl (by decide), by decide, by decide⟩

/-- the fork is refused with 422 and nothing is stored; so is the honest extension with a wrong proof,
a checkpoint not signed by the log gets 403, a stale old size 409 with the recorded size -/
example : (addCheckpoint nodeE emptyE envFork st1).2 = .err .proof 0 ∧
    (addCheckpoint nodeE emptyE envFork st1).1.hist = st1.hist := by decide

example : (addCheckpoint nodeE emptyE (env 1 [leaf0] (signedBy logKey (text 2 (nodeE leaf0 leaf1)))) st1).2 =
    .err .proof 0 := by decide

example : (addCheckpoint nodeE emptyE (env 1 [leaf1] (signedBy k1 (text 2 (nodeE leaf0 leaf1)))) st1).2 =
    .err .invalidSignature 0 := by decide

example : (addCheckpoint nodeE emptyE (env 0 [] (signedBy logKey (text 2 (nodeE leaf0' leaf1)))) st1).2 =
    .err .conflict 1 := by decide

/-- a lock write that takes effect but reports an error releases nothing and drops the cached copy;
the retry is answered 409 with the size that was recorded -/
example :
    let e := { env2 with replaceOut := .errA }
    (addCheckpoint nodeE emptyE e st1).2 = .err .internal 0 ∧
    (addCheckpoint nodeE emptyE e st1).1.hist = [(0, emptyE), (1, leaf0), (2, nodeE leaf0 leaf1)] ∧
    (addCheckpoint nodeE emptyE e st1).1.cache 0 = none ∧
    (addCheckpoint nodeE emptyE env2 (addCheckpoint nodeE emptyE e st1).1).2 = .err .conflict 2 := by decide

end Example
end C14
