import Proofs.SeqSoloPub
import Proofs.SeqDemo
/-! C01 — Checkpoint history of a log is append-only.

The model (Model/Sequencer.lean) is a transition system at storage/lock-operation granularity whose
events include every fault outcome (applied / not applied), crashes and restarts of any number of
instances, and clock reads returning ANY value. `Reachable s` quantifies over every accepted event
sequence. Theorems below are about the lock-store history `lockHist` and the publication history
`pubHist` (both newest first). -/
namespace C01
open Seq

/-- Every checkpoint ever committed to the lock store extends every earlier one (the earlier leaf
    list is a prefix of the later one, so sizes never shrink) and tree-head timestamps strictly increase. -/
theorem C01_lock_chain {s : Sys} (r : Reachable s) :
    s.lockHist.Pairwise (fun newer older => older.leaves <+: newer.leaves ∧ older.time < newer.time) :=
  chain_pairwise _ (inv_reachable r).chain

/-- sizes never shrink -/
theorem C01_sizes_monotone {s : Sys} (r : Reachable s) :
    s.lockHist.Pairwise (fun newer older => older.leaves.length ≤ newer.leaves.length) :=
  (C01_lock_chain r).imp fun h => h.1.length_le

/-- Every checkpoint that became publicly readable had been committed to the lock store. -/
theorem C01_pub_committed {s : Sys} (r : Reachable s) : ∀ c ∈ s.pubHist, c ∈ s.lockHist :=
  (inv_reachable r).pub

/-- hence no fork: any two checkpoints ever committed or published are comparable -/
theorem C01_no_fork {s : Sys} (r : Reachable s) :
    ∀ c ∈ s.pubHist ++ s.lockHist, ∀ d ∈ s.pubHist ++ s.lockHist, c.leaves <+: d.leaves ∨ d.leaves <+: c.leaves := by
  have hmem : ∀ c ∈ s.pubHist ++ s.lockHist, c ∈ s.lockHist := by
    intro c hc
    rcases List.mem_append.1 hc with h | h
    · exact C01_pub_committed r c h
    · exact h
  exact fun c hc d hd => (inv_reachable r).comparable (hmem c hc) (hmem d hd)

/-- "The first N leaves of a later tree hash to the root of any earlier size-N checkpoint":
    for ANY hash rendering `root` of leaf lists, prefix ⇒ equal roots of the first N leaves. -/
theorem C01_roots {α : Type} (root : Tree → α) (older newer : Ck) (h : older.leaves <+: newer.leaves) :
    root (newer.leaves.take older.leaves.length) = root older.leaves := by
  rw [← List.prefix_iff_eq_take.1 h]

/-- Any clock behaviour: a round whose clock read does not exceed the tree-head time of the tree it
    extends commits nothing (it ends fatally), whatever value the clock returned. -/
theorem C01_clock_guard (s s' : Sys) (i v : Nat) (rd : Round)
    (hp : (s.insts i).phase = .round rd) (hpc : rd.pc = .clock) (hv : v ≤ (s.insts i).tree.time)
    (h : step s (.clock i v) = some s') :
    s'.lockHist = s.lockHist ∧ s'.lock = s.lock ∧
      (s'.insts i).phase = .round { rd with pc := .done .fatal } := by
  simp only [step, hp, hpc, hv, if_true] at h
  injection h with h; subst h
  simp [Sys.setInst, upd]

/-- Publication order (C01's own quantifier: one process dying and restarting, any faults, crashes and
    clock behaviour — `ReachableSolo`: at most one instance is not down at any moment): the sequence of
    checkpoints that became publicly readable is append-only too — every published checkpoint extends
    every earlier published one and tree-head timestamps never go back. With two overlapping
    instances this statement is FALSE of the model and of the code (finding F3, witnessed by
    `C06_pub_order_not_monotone_witness`). -/
theorem C01_pub_monotone_solo {s : Sys} (r : ReachableSolo s) (ht : s.tampered = false) :
    s.pubHist.Pairwise (fun newer older => older.leaves <+: newer.leaves ∧ older.time ≤ newer.time) :=
  pubMono_reachable r ht

/-- Without tampering (any number of instances) the public checkpoint object is exactly the last
    effective checkpoint upload: nothing else ever writes or removes it. -/
theorem C01_ckpt_object_is_last_publication {s : Sys} (r : Reachable s) (ht : s.tampered = false) :
    s.store .ckpt = s.pubHist.head?.map (fun c => (Obj.ck c, false)) :=
  ckHead_reachable r ht

theorem demo_inst : ∀ e ∈ Seq.Demo.demo, e.inst = some 0 :=
  insts_eq_of_all (by decide)

/-- non-vacuity: a single-process run with three publications (creation, a round with tiles, an empty round) -/
example : ∃ s, ReachableSolo s ∧ s.tampered = false ∧ s.pubHist.length = 3 := by
  obtain ⟨s, h, _, hp, _⟩ := Seq.Demo.demo_runs
  obtain ⟨s2, h2, ht, _⟩ := Seq.Demo.demo_untampered
  have : s2 = s := by rw [h] at h2; injection h2 with h2; exact h2.symm
  subst this
  exact ⟨s2, (ReachableSolo.init 0).run_inst (i := 0) (fun _ _ => rfl) demo_inst h, ht, by rw [hp]; rfl⟩

end C01
