import Proofs.Subtree
/-! C16 — Subtree cosignatures are issued only for subtrees of a cosigned tree.

About `Subtree.signSubtree` (`Model/Subtree.lean`), for an arbitrary interior hash `node`;
collision-freeness of SHA-256 is the hypothesis `Merkle.NodeInj node` of `C16_sound`. Signatures
are symbolic (`Witness.symSig key message`): "key `k` has a valid cosignature on the checkpoint"
means that a signature line of the submitted note carries `k`'s name and key hash and is
`symSig k.key text`. `Tie/C16.lean` ties `Subtree.program` and the signing loop to the current
source; `vh subtree` + `drv subtree` run the real handler against `signSubtree` and the real
`ValidSubtree`/`CheckSubtree` against `Merkle.validSubtree`/`Merkle.checkSubtree`.
Outside the model: the byte-level split of the note, ML-DSA itself, HTTP. -/
namespace C16
open Subtree Checkpoint
open Witness (Hash symSig VKey Cfg Resp ErrClass NoteForm Opens)

variable (node : Hash → Hash → Hash)

/-- A 200 answer to sign-subtree carries, for the (origin, size, root) parsed from the presented
checkpoint — of a configured log, without extension lines — only lines that
* are made with the witness' ML-DSA key or the mirror key (`ownKeys`) over
  `subtree/v1 ‖ signer name ‖ 0 ‖ origin ‖ start ‖ end ‖ hash`,
* for a signer whose own valid cosignature over the re-serialised checkpoint is among the lines of
  the presented note (the per-signer re-verification),
and only if `[start, end)` is a valid subtree, `end ≤ size`, and — for every leaf list that opens
the checkpoint — the supplied hash IS the hash of the subtree `[start, end)` of that tree. -/
theorem C16_sound (emptyHash : Hash) (inj : Merkle.NodeInj node) (e : Env) (sigs : List SigLine)
    (h : signSubtree node e = .ok sigs) :
    ∃ note c, e.req.note = .wellformed note ∧ parseCheckpoint note.text = some c ∧ c.ext = [] ∧
      c.origin = e.origin ∧ (∃ lc, e.cfg.find c.origin = some lc) ∧
      Merkle.validSubtree e.req.start e.req.stop = true ∧ e.req.stop ≤ c.n.toNat ∧
      (∀ B, Opens node emptyHash (c.n.toNat, c.hash) B →
        Merkle.subtreeHash node emptyHash B e.req.start e.req.stop = e.req.hash) ∧
      ∀ l ∈ sigs, ∃ k ∈ ownKeys e.cfg,
        (∃ m, subtreeMessage k.name 0 c.origin e.req.start e.req.stop e.req.hash = some m ∧
          l = { name := k.name, hash := k.hash, sig := symSig k.key m }) ∧
        ∃ sl ∈ note.sigs, sl.name = k.name ∧ sl.hash = k.hash ∧ sl.sig = symSig k.key (formatCheckpoint c) := by
  obtain ⟨vs, c, P, hsa⟩ := signSubtree_ok h
  obtain ⟨note, hn, -⟩ := opened_ok P.opened
  have hc := P.ck
  simp only [Env.lines, Env.ckpt, Env.text, hn] at hsa hc
  refine ⟨note, c, hn, hc, P.ext, P.origin, Option.ne_none_iff_exists'.1 (P.origin ▸ P.known),
    P.valid, P.within, fun B hB => Merkle.checkSubtree_sound node emptyHash inj _ _ _ _ _ _ P.proof B hB.1 hB.2,
    fun l hl => ?_⟩
  obtain ⟨k, hk, hre, hsl⟩ := (signAll_sound hsa).2 l hl
  exact ⟨k, (mem_signersOf.1 hk).1, signLine_some hsl, reverify_sound hre⟩

/-- a 200 answer is never empty: every verified signature selects at least one signer -/
theorem C16_nonempty (e : Env) (sigs : List SigLine) (h : signSubtree node e = .ok sigs) : sigs ≠ [] := by
  obtain ⟨vs, c, P, hsa⟩ := signSubtree_ok h
  obtain ⟨note, -, hvs⟩ := opened_ok P.opened
  rintro rfl
  exact signersOf_ne_nil hvs (List.eq_nil_of_length_eq_zero (signAll_sound hsa).1.symm)

/-- No signature at all — an error status — when the presented checkpoint carries no valid
cosignature by an own key, or the range is not a valid subtree, or it reaches beyond the
checkpoint's size, or the hash/proof does not verify, or the log is unknown, or the checkpoint
has extension lines. -/
theorem C16_none (e : Env)
    (h : (∀ vs, e.opened ≠ .ok vs) ∨ Merkle.validSubtree e.req.start e.req.stop = false ∨
      e.cfg.find e.origin = none ∨
      (∀ c, e.ckpt = some c → c.ext ≠ [] ∨ c.n.toNat < e.req.stop ∨
        Merkle.checkSubtree node e.req.proof.reverse c.n.toNat c.hash e.req.start e.req.stop e.req.hash = false)) :
    ∀ sigs, signSubtree node e ≠ .ok sigs := by
  intro sigs hs
  obtain ⟨vs, c, P, -⟩ := signSubtree_ok hs
  rcases h with h | h | h | h
  · exact h vs P.opened
  · rw [P.valid] at h; cases h
  · exact P.known h
  · rcases h c P.ck with h | h | h
    · exact h P.ext
    · exact Nat.not_lt.2 P.within h
    · rw [P.proof] at h; cases h

/-- the protocol's answers, in the order the checks are made -/
theorem C16_status (e : Env) :
    ((e.req.body ≠ .ok ∨ Merkle.validSubtree e.req.start e.req.stop = false) →
      signSubtree node e = .err .badRequest 0) ∧
    (e.req.body = .ok → Merkle.validSubtree e.req.start e.req.stop = true →
      (e.cfg.find e.origin = none → signSubtree node e = .err .unknownLog 0) ∧
      (e.cfg.find e.origin ≠ none →
        ((e.opened = .error .unverified ∨ e.opened = .error .invalidSignature) →
          signSubtree node e = .err .invalidSignature 0) ∧
        (∀ x, e.opened = .error x → x ≠ .unverified → x ≠ .invalidSignature →
          signSubtree node e = .err .badRequest 0) ∧
        (∀ vs, e.opened = .ok vs →
          (e.ckpt = none → signSubtree node e = .err .badCheckpoint 0) ∧
          (∀ c, e.ckpt = some c → c.origin = e.origin →
            (c.ext ≠ [] → signSubtree node e = .err .extensions 0) ∧
            (c.ext = [] → c.n.toNat < e.req.stop → signSubtree node e = .err .badRequest 0) ∧
            (c.ext = [] → e.req.stop ≤ c.n.toNat →
              Merkle.checkSubtree node e.req.proof.reverse c.n.toNat c.hash e.req.start e.req.stop e.req.hash = false →
              signSubtree node e = .err .proof 0))))) := by
  have key : ∀ c, firstFail node program e = some c → signSubtree node e = .err c 0 := fun c h => by
    unfold signSubtree; rw [h]
  refine ⟨fun h => key _ (by rw [firstFail_program, if_pos h]), fun hb hv => ⟨fun hl => key _ ?_, fun hl => ⟨?_, ?_, ?_⟩⟩⟩
  · simp [firstFail_program, hb, hv, hl]
  · rintro (ho | ho) <;> exact key _ (by simp [firstFail_program, hb, hv, hl, ho])
  · intro x ho h1 h2
    exact key _ (by cases x <;> first | cases h1 rfl | cases h2 rfl | simp [firstFail_program, hb, hv, hl, ho])
  · intro vs ho
    refine ⟨fun hc => key _ (by simp [firstFail_program, hb, hv, hl, ho, hc]), fun c hc hco => ⟨?_, ?_, ?_⟩⟩
    · intro he
      exact key _ (by simp [firstFail_program, hb, hv, hl, ho, hc, hco, he])
    · intro he hlt
      exact key _ (by simp [firstFail_program, hb, hv, hl, ho, hc, hco, he, hlt])
    · intro he hle hcs
      exact key _ (by simp [firstFail_program, hb, hv, hl, ho, hc, hco, he, Nat.not_lt.2 hle, hcs])

/-- `torchwood.ValidSubtree` for non-negative arguments: a non-empty range no longer than 2^62
whose start is a multiple of the smallest power of two not smaller than its length -/
theorem C16_validSubtree_spec (s e : Nat) :
    Merkle.validSubtree s e = true ↔ s < e ∧ e - s ≤ Merkle.maxN ∧ s % Merkle.bitCeil (e - s) = 0 :=
  Merkle.validSubtree_spec s e

/-- `bitCeil n` is the smallest power of two that is at least `n` -/
theorem C16_bitCeil_spec (n : Nat) :
    (∃ k, Merkle.bitCeil n = 2 ^ k) ∧ n ≤ Merkle.bitCeil n ∧ ∀ k, n ≤ 2 ^ k → Merkle.bitCeil n ≤ 2 ^ k :=
  ⟨Merkle.bitCeil_pow n, Merkle.le_bitCeil n, fun _ h => Merkle.bitCeil_min h⟩

example : Merkle.validSubtree 4 8 = true ∧ Merkle.validSubtree 4 7 = true ∧ Merkle.validSubtree 2 6 = false ∧
    Merkle.validSubtree 0 5 = true ∧ Merkle.validSubtree 5 5 = false ∧ Merkle.validSubtree 6 5 = false := by
  decide

/-! ### non-vacuity -/
namespace Example

def nodeE (a b : Hash) : Hash := a.take 16 ++ b.take 16
def k1 : VKey := ⟨[119], 1, 0⟩
def k2 : VKey := ⟨[119], 2, 1⟩
def km : VKey := ⟨[109], 4, 3⟩
def logKey : VKey := ⟨[111], 3, 2⟩
def cfg : Cfg := { k1 := k1, k2 := k2, mirror := some km, logs := [⟨[111], [logKey]⟩] }
def leaf0 : Hash := List.replicate 32 7
def leaf1 : Hash := List.replicate 32 9
def text : Bytes := formatCheckpoint { origin := [111], n := 2, hash := nodeE leaf0 leaf1, ext := [] }
def note (ks : List VKey) : NoteForm := .wellformed { text := text, sigs := ks.map (·.sign text) }
def env (ks : List VKey) (s e : Nat) (h : Hash) (p : List Hash) : Env :=
  { cfg := cfg, req := { body := .ok, start := s, stop := e, hash := h, proof := p, note := note ks } }

def line (k : VKey) (s e : Nat) (h : Hash) : Option Checkpoint.SigLine :=
  (subtreeMessage k.name 0 [111] s e h).map fun m => { name := k.name, hash := k.hash, sig := symSig k.key m }

/-- cosigned by the witness' ML-DSA key and the mirror key: both sign the subtree [0,1) -/
example : some (signSubtree nodeE (env [logKey, k1, k2, km] 0 1 leaf0 [leaf1])) =
    (do let a ← line k2 0 1 leaf0; let b ← line km 0 1 leaf0; pure (Resp.ok [a, b])) := by decide

/-- cosigned by the ML-DSA key only: only that key signs; by the Ed25519 key only: 403 -/
example : some (signSubtree nodeE (env [logKey, k2] 1 2 leaf1 [leaf0])) =
    (do let a ← line k2 1 2 leaf1; pure (Resp.ok [a])) := by decide
example : signSubtree nodeE (env [logKey, k1] 0 1 leaf0 [leaf1]) = .err .invalidSignature 0 := by decide
/-- a wrong hash: 422; a range beyond the size: 400; a range that is not a subtree: 400 -/
example : signSubtree nodeE (env [logKey, k2] 0 1 leaf1 [leaf1]) = .err .proof 0 := by decide
example : signSubtree nodeE (env [logKey, k2] 2 3 leaf1 []) = .err .badRequest 0 := by decide
example : signSubtree nodeE (env [logKey, k2] 1 3 leaf1 []) = .err .badRequest 0 := by decide

end Example
end C16
