import Proofs.SkylightRoute
/-! C19 — The read-path server serves exactly the stored objects with correct metadata.

About `Skylight.Route.route` / `respond` (`Model/Skylight.lean`, part 2): which file of which configured
directory a GET is answered from and with which headers — for every configuration, host and request
path (any byte string), with net/http's path cleaning as the server applies it.

Outside the model: that `http.FileServerFS(filesOnlyFS{root.FS()})` serves the bytes of the regular
file it is asked for and nothing else (`os.Root` confinement, hidden directories): exercised by
`vh skylight` on the built binary against a runtime oracle, not proved; request targets whose escaping
is not canonical; methods other than GET; the rate limiter. -/
namespace C19
open Skylight.Route TilePath

/-- the segments are clean: not empty, not `.`, not `..`, no `/` inside -/
def CleanSegs (S : List Bytes) : Prop := ∀ s ∈ S, Normal s ∧ (47 : UInt8) ∉ s

/-- in the terms of `Proofs/SkylightRoute.lean`: every segment is a `Seg` -/
theorem cleanSegs_iff {S : List Bytes} : CleanSegs S ↔ ∀ s ∈ S, Seg s := Iff.rfl

/-- **The file server is only ever handed a cleaned relative path.** Whatever the request path
(traversal, doubled slashes, dot segments, wrong prefix): if the request reaches a file server at
all, the path was already in net/http's canonical form (otherwise the answer is a redirect), the
directory is the one of an entry configured for that host whose URL prefix the path starts with, and
the file name consists of exactly the request segments after that prefix — each non-empty, none of
them `.` or `..`, none containing a slash. -/
theorem C19_confined_model (c : Cfg) (host p : Bytes) (root : RootId) (rel : List Bytes) (tr : Bool) (k : Kind) (h : Hdrs)
    (hf : route c host p = .file root rel tr k h) :
    cleanPath p = p ∧ CleanSegs rel ∧ dotdot ∉ rel ∧
    ∃ e : Entry, ((∃ i, root = .log i ∧ c.logs[i]? = some e) ∨ (∃ j, root = .wit j ∧ c.wits[j]? = some e)) ∧
      e.host = host ∧ isPrefix e.pfx (cleanParts p).1 = true ∧ rel = (cleanParts p).1.drop e.pfx.length := by
  obtain ⟨e, r⟩ := route_file hf
  have hcs : CleanSegs rel := cleanSegs_iff.mpr fun s hs => cleanParts_segs p s (List.mem_of_mem_drop (r.rel_eq ▸ hs))
  exact ⟨r.clean, hcs, fun hm => (hcs _ hm).1.2.2 rfl, e, r.entry, r.host, r.pfx, r.rel_eq⟩

/-- … and so is every successful answer: a 200 is the content of a regular file (as the file system
reports it) named by clean request segments inside the selected directory. -/
theorem C19_confined_response (c : Cfg) (host p : Bytes) (look : RootId → Bytes → FileState)
    (root : RootId) (file : Bytes) (h : Hdrs) (hr : respond look (route c host p) = .ok root file h) :
    ∃ rel, file = relPath rel ∧ CleanSegs rel ∧ dotdot ∉ rel ∧ look root file = .regular := by
  obtain ⟨rel, tr, k, hro, rfl, hl⟩ := respond_ok hr
  obtain ⟨_, hcs, hdd, _⟩ := C19_confined_model c host p root rel tr k h hro
  exact ⟨rel, rfl, hcs, hdd, hl⟩

/-- non-vacuity, and what the hostile spellings do: a traversal is answered by a redirect, never a file -/
def demo : Cfg := ⟨true, [⟨ascii "rome.example.org", []⟩, ⟨ascii "logs.example.org", [ascii "rome2026h2"]⟩],
  [⟨ascii "witness.example.org", []⟩]⟩
example : route demo (ascii "rome.example.org") (ascii "/tile/../../etc/passwd") = .redirect := by decide +kernel
example : route demo (ascii "rome.example.org") (ascii "//checkpoint") = .redirect := by decide +kernel
example : route demo (ascii "logs.example.org") (ascii "/rome2026h2/tile/data/x001/234.p/5") =
    .file (.log 1) [ascii "tile", ascii "data", ascii "x001", ascii "234.p", ascii "5"] false .partialData
      ⟨"application/octet-stream", true, immutableCC⟩ := by decide +kernel
example : route demo (ascii "logs.example.org") (ascii "/checkpoint") = .notFound := by decide +kernel
theorem demo_dir : route demo (ascii "rome.example.org") (ascii "/tile/data/") =
    .file (.log 0) [ascii "tile", ascii "data"] true .tile ⟨"application/octet-stream", false, immutableCC⟩ := by decide +kernel
example : route demo (ascii "rome.example.org") (ascii "/tile/data/") =
    .file (.log 0) [ascii "tile", ascii "data"] true .tile ⟨"application/octet-stream", false, immutableCC⟩ := demo_dir
example : respond (fun _ _ => .absent) (route demo (ascii "rome.example.org") (ascii "/tile/data/")) = .notFound := by
  rw [demo_dir]; decide

/-- **Logs.** For every log entry that is the one selected for its host and prefix (e.g. because the
configured (host, prefix) pairs are prefix-free, `selected_of_prefixFree`), the layout URL
`<prefix>/<layout path>` of the checkpoint, of `log.v3.json`, of an issuer and of *every tile of the
domain* (`TileDom`: any level ≥ −2 incl. names tiles, any index, any width 1…256) is routed to the file
server of that log's directory with exactly the layout path as file name and the prescribed headers. -/
theorem C19_layout_exact (c : Cfg) (i : Nat) (e : Entry) (hpfx : CleanSegs e.pfx)
    (hsel : ∀ X, findEntry e.host (e.pfx ++ X) c.logs 0 = some (i, e)) :
    route c e.host (joinSegs (e.pfx ++ [ascii "checkpoint"])) = .file (.log i) [ascii "checkpoint"] false .checkpoint checkpointHdrs ∧
    route c e.host (joinSegs (e.pfx ++ [ascii "log.v3.json"])) = .file (.log i) [ascii "log.v3.json"] false .logJSON jsonHdrs ∧
    (∀ fp, Normal fp → (47 : UInt8) ∉ fp →
      route c e.host (joinSegs (e.pfx ++ [ascii "issuer", fp])) = .file (.log i) [ascii "issuer", fp] false .issuer issuerHdrs) ∧
    (∀ t, TileDom t → ∃ lp S, sunlightPath t = some lp ∧ lp = relPath S ∧
      route c e.host (joinSegs (e.pfx ++ S)) = .file (.log i) S false (tileHeaders t).1 (tileHeaders t).2) := by
  have hroute : ∀ X, X ≠ [] → (∀ s ∈ X, Seg s) →
      route c e.host (joinSegs (e.pfx ++ X)) = logMux c.home (.log i) [] X false :=
    fun X hX hc => route_log_layout c i e X hX (List.forall_mem_append.mpr ⟨cleanSegs_iff.mp hpfx, hc⟩) (hsel X)
  refine ⟨?_, ?_, ?_, ?_⟩
  · rw [hroute _ (by simp) (by decide)]
    rfl
  · rw [hroute _ (by simp) (by decide)]
    rfl
  · intro fp hn hs
    rw [hroute _ (by simp) (List.forall_mem_cons.mpr ⟨by decide, by simpa using ⟨hn, hs⟩⟩)]
    simp [logMux]
  · intro t ht
    obtain ⟨lp, hp, S, hS⟩ := sunlightPath_segs t ht
    obtain ⟨lv, rest, hSeq, _⟩ := hS.shape
    refine ⟨lp, S, hp, hS.path, ?_⟩
    rw [hroute S (by simp [hSeq]) hS.segs, logMux_tile c.home (.log i) [] hS, tileOf_sunlight t ht lp hp]
    rfl

/-- the selection hypothesis of `C19_layout_exact` holds for prefix-free configurations: no earlier log
entry with the same host has a prefix that is comparable with this one's -/
theorem selected_of_prefixFree (c : Cfg) (i : Nat) (e : Entry) (hi : c.logs[i]? = some e)
    (hfree : ∀ j e', j < i → c.logs[j]? = some e' → e'.host = e.host → ∀ X, isPrefix e'.pfx (e.pfx ++ X) = false) :
    ∀ X, findEntry e.host (e.pfx ++ X) c.logs 0 = some (i, e) := by
  intro X
  have := findEntry_first (host := e.host) (S := e.pfx ++ X) c.logs 0 i e hi rfl (isPrefix_append _ _)
    (fun j e' hj hje hc => by
      have := hfree j e' hj hje hc.1 X
      rw [hc.2] at this; cases this)
  simpa using this

/-- **Witnesses and mirrors.** For the selected witness entry and every origin directory `o` (a clean
segment other than `mirror`): `<prefix>/witness.v0.json`, `<prefix>/mirror/mirror.v0.json`,
`<prefix>/<o>/checkpoint`, `<prefix>/mirror/<o>/checkpoint` and every tile
`<prefix>/mirror/<o>/<torchwood tile path>` (hash tiles of any level, entry bundles at `tile/entries/`)
are routed to the witness directory's file server with the prefix stripped and the origin
re-prefixed: file `<o>/…`, `mirror/<o>/…`; a tile with the headers `tileHeaders t` (by `C19_tile_headers`, entry
bundles carry gzip, hash tiles do not). -/
theorem C19_layout_exact_witness (c : Cfg) (j : Nat) (e : Entry) (hpfx : CleanSegs e.pfx)
    (hnolog : ∀ X, findEntry e.host (e.pfx ++ X) c.logs 0 = none)
    (hsel : ∀ X, findEntry e.host (e.pfx ++ X) c.wits 0 = some (j, e))
    (o : Bytes) (ho : Normal o) (hos : (47 : UInt8) ∉ o) (hom : o ≠ ascii "mirror") :
    route c e.host (joinSegs (e.pfx ++ [ascii "witness.v0.json"])) = .file (.wit j) [ascii "witness.v0.json"] false .witnessJSON jsonHdrs ∧
    route c e.host (joinSegs (e.pfx ++ [ascii "mirror", ascii "mirror.v0.json"])) =
      .file (.wit j) [ascii "mirror", ascii "mirror.v0.json"] false .mirrorJSON jsonHdrs ∧
    route c e.host (joinSegs (e.pfx ++ [o, ascii "checkpoint"])) = .file (.wit j) [o, ascii "checkpoint"] false .checkpoint checkpointHdrs ∧
    route c e.host (joinSegs (e.pfx ++ [ascii "mirror", o, ascii "checkpoint"])) =
      .file (.wit j) [ascii "mirror", o, ascii "checkpoint"] false .checkpoint checkpointHdrs ∧
    (∀ t : Tile, t.H = 8 → -1 ≤ t.L → t.L ≤ 9223372036854775807 → 1 ≤ t.W → t.W ≤ 256 → 0 ≤ t.N → t.N ≤ 9223372036854775807 →
      ∃ lp S, torchwoodPath t = some lp ∧ lp = relPath S ∧
        route c e.host (joinSegs (e.pfx ++ ascii "mirror" :: o :: S)) =
          .file (.wit j) (ascii "mirror" :: o :: S) false (tileHeaders t).1 (tileHeaders t).2) := by
  have hroute : ∀ X out, X ≠ [] → (∀ s ∈ X, Seg s) → witnessRoute c.home j X false = some out →
      route c e.host (joinSegs (e.pfx ++ X)) = out :=
    fun X out hX hc =>
      route_wit_layout c j e X hX (List.forall_mem_append.mpr ⟨cleanSegs_iff.mp hpfx, hc⟩) (hnolog X) (hsel X) out
  have hm : Seg (ascii "mirror") := by decide
  have hck : Seg (ascii "checkpoint") := by decide
  refine ⟨?_, ?_, ?_, ?_, ?_⟩
  · exact hroute _ _ (by simp) (by decide) (by simp [witnessRoute])
  · exact hroute _ _ (by simp) (by decide) (by simp [witnessRoute])
  · exact hroute _ _ (by simp) (by simpa using ⟨⟨ho, hos⟩, hck⟩) (by simp [witnessRoute, hom, logMux])
  · exact hroute _ _ (by simp) (by simpa using ⟨hm, ⟨ho, hos⟩, hck⟩) (by simp [witnessRoute, logMux])
  · intro t hH hL0 hL1 hW0 hW1 hN0 hN1
    have hd : TileDom t := ⟨hH, by omega, hL1, hN0, hN1, hW0, hW1⟩
    obtain ⟨lp, hp, S, hS⟩ := torchwoodPath_segs t hd hL0
    obtain ⟨lv, rest, hSeq, _⟩ := hS.shape
    refine ⟨lp, S, hp, hS.path, hroute _ _ (by simp) ?_ ?_⟩
    · exact List.forall_mem_cons.mpr ⟨hm, List.forall_mem_cons.mpr ⟨⟨ho, hos⟩, hS.segs⟩⟩
    · have hw : witnessRoute c.home j (ascii "mirror" :: o :: S) false =
          some (logMux c.home (.wit j) [ascii "mirror", o] S false) := by
        rw [hSeq]; simp [witnessRoute]
      rw [hw, logMux_tile c.home (.wit j) [ascii "mirror", o] hS, tileOf_torchwood t hd hL0 lp hp]
      rfl

/-- **The header table.** For whatever is routed to a file server: gzip ⇔ the kind is a data, partial-data or names
tile (a level −1 / −2 coordinate: data tiles, names tiles, and the entry bundles of mirrors); immutable caching ⇔ tile
or issuer; `no-store` ⇔ checkpoint; and the content type of each kind. -/
theorem C19_headers (c : Cfg) (host p : Bytes) (root : RootId) (rel : List Bytes) (tr : Bool) (k : Kind) (h : Hdrs)
    (hf : route c host p = .file root rel tr k h) :
    (h.gzip = true ↔ (k = .data ∨ k = .partialData ∨ k = .names)) ∧
    (h.cache = immutableCC ↔ (k = .tile ∨ k = .data ∨ k = .partialData ∨ k = .names ∨ k = .issuer)) ∧
    (h.cache = "no-store" ↔ k = .checkpoint) ∧
    (k = .checkpoint → h.ctype = "text/plain; charset=utf-8") ∧
    (k = .issuer → h.ctype = "application/pkix-cert") ∧
    (k = .names → h.ctype = "application/jsonl; charset=utf-8") ∧
    ((k = .tile ∨ k = .data ∨ k = .partialData) → h.ctype = "application/octet-stream") ∧
    ((k = .logJSON ∨ k = .witnessJSON ∨ k = .mirrorJSON) → h.ctype = "application/json") := by
  obtain ⟨_, r⟩ := route_file hf
  obtain rfl := r.hdrs
  cases k <;> decide

/-- the tile handler's `switch tile.L` by coordinate: gzip exactly for level −1 (data tiles / entry
bundles) and −2 (names tiles); names tiles are `application/jsonl`; every tile is immutable -/
theorem C19_tile_headers (t : Tile) :
    ((tileHeaders t).2.gzip = true ↔ (t.L = -1 ∨ t.L = -2)) ∧
    (tileHeaders t).2.cache = immutableCC ∧
    ((tileHeaders t).2.ctype = (if t.L = -2 then "application/jsonl; charset=utf-8" else "application/octet-stream")) := by
  rcases tileHeaders_cases t with ⟨hL, h⟩ | ⟨hL, h⟩ | ⟨h1, h2, h⟩ <;> rw [h] <;> simp [*, hdrsOf]

example : (tileHeaders ⟨8, -2, 7, 256⟩) = (.names, ⟨"application/jsonl; charset=utf-8", true, immutableCC⟩) := by decide +kernel
example : (tileHeaders ⟨8, 3, 7, 12⟩) = (.tile, ⟨"application/octet-stream", false, immutableCC⟩) := by decide +kernel
/-- a path that is no tile coordinate gets the default (hash tile) headers: never gzip -/
example : tileOf (ascii "tile/bogus") = ⟨0, 0, 0, 0⟩ ∧ (tileHeaders (tileOf (ascii "tile/bogus"))).2.gzip = false := by decide +kernel

end C19
