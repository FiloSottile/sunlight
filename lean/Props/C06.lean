import Proofs.SeqDemo
/-! C06 — Concurrent, stale or misconfigured instances cannot fork a log.
`Reachable` ranges over every interleaving (at storage/lock-operation granularity) of any number of
instances, with faults, crashes, restarts and misconfigured starts. -/
namespace C06
open Seq

/-- A compare-and-swap takes effect only from the value the instance holds, and only if that value is
    still the one in the lock store. -/
theorem C06_cas_guard (s s' : Sys) (i : Nat) (old new : Ck) (r : Res)
    (h : step s (.lockReplace i old new r) = some s') (hr : r.applied = true) :
    s.lock = some old ∧ old = (s.insts i).tree ∧ s'.lock = some new ∧ s'.lockHist = new :: s.lockHist := by
  cases step_sound h with
  | casOk _ _ hl | casOkEmpty _ _ hl | casLost _ _ hl => exact ⟨hl, rfl, rfl, rfl⟩
  | casFail _ _ hr' => rw [hr] at hr'; cases hr'

/-- The lock history never returns to an earlier value: the lock checkpoint is strictly newer than every value
    the lock store held before. So a checkpoint that has been replaced is never the lock value again, and since a
    compare-and-swap needs the lock store to hold its old value (`C06_cas_guard`), at most one ever extends it. -/
theorem C06_one_successor {s : Sys} (r : Reachable s) (c : Ck) (hc : s.lock = some c) :
    ∀ d ∈ s.lockHist.tail, d.time < c.time := by
  have hinv := inv_reachable r
  have hp := chain_pairwise _ hinv.chain
  cases hl : s.lockHist with
  | nil => simp
  | cons a t =>
    rw [hl] at hp
    have hh := hinv.head
    rw [hl, hc] at hh
    simp at hh; subst hh
    intro d hd
    exact ((List.pairwise_cons.1 hp).1 d hd).2

/-- The instance that loses the compare-and-swap stops: its round ends fatally (no acknowledgement is
    possible from it, see `C06_loser_no_ack`) and nothing is committed. -/
theorem C06_loser_stops (s s' : Sys) (i : Nat) (old new : Ck)
    (h : step s (.lockReplace i old new .refused) = some s') :
    s'.lockHist = s.lockHist ∧ s'.lock = s.lock ∧
      ∃ rd, (s'.insts i).phase = .round rd ∧ rd.pc = .done .fatal := by
  cases step_sound h with
  | casFail => exact ⟨rfl, rfl, _, setPhase_phase _ _ _, rfl⟩

/-- A round that ended fatally acknowledges nothing: the model accepts an acknowledgement from a round
    only in the `done ok` state (after the checkpoint upload succeeded) or from the cache. -/
theorem C06_loser_no_ack (s : Sys) (i eid key idx ts : Nat) (rd : Round)
    (hp : (s.insts i).phase = .round rd) (hpc : rd.pc = .done .fatal)
    (hcache : cacheLookup (s.insts i).cache key ≠ some (idx, ts)) :
    step s (.ack i eid key idx ts) = none := by
  simp [step, hp, hpc, hcache]

/-- After a fatal round the instance is `stopped`; a stopped instance starts no round, admits no
    submission and performs no lock operation. -/
theorem C06_stopped_inert (s : Sys) (i : Nat) (hp : (s.insts i).phase = .stopped) :
    step s (.launchRound i) = none ∧ (∀ o n r, step s (.lockReplace i o n r) = none) ∧
    (∀ e k l is src, src ≠ Src.issuer → step s (.submitted i e k l is src) = none) := by
  refine ⟨by simp [step, hp], fun o n r => by simp [step, hp], ?_⟩
  intro e k l is src hsrc
  simp only [step, hp, isUp]
  split
  · rfl
  · simp

/-- A log is never created over an existing one: `Create` takes effect only on an empty lock store. -/
theorem C06_create_guard (s s' : Sys) (i : Nat) (c : Ck) (r : Res)
    (h : step s (.lockCreate i c r) = some s') (hr : r.applied = true) : s.lock = none := by
  cases step_sound h with
  | lockCreateOk _ hl | lockCreateLost _ hl => exact hl
  | lockCreateFail _ hr' => rw [hr] at hr'; cases hr'

/-- An instance refuses to start (goes to `failing`) when the published checkpoint is ahead of the
    lock store or has the same size but different content. -/
theorem C06_start_refuses (s s' : Sys) (i v : Nat) (c c1 : Ck)
    (hp : (s.insts i).phase = .loading (.clock2 c c1)) (hv : c1.time ≤ v)
    (hbad : c1.leaves.length > c.leaves.length ∨ (c1.leaves.length = c.leaves.length ∧ c1.leaves ≠ c.leaves))
    (h : step s (.clock i v) = some s') :
    ∃ x, (s'.insts i) = x ∧ (match x.phase with | .loading .failing => True | _ => False) := by
  cases step_sound h with
  | clockLoad2Fail => exact ⟨_, rfl, by rw [setPhase_phase]; trivial⟩
  | clockLoadSame hp' _ heq =>
    cases hp.symm.trans hp'
    rcases hbad with hgt | ⟨_, hne⟩
    · rw [heq] at hgt; exact absurd hgt (Nat.lt_irrefl _)
    · exact absurd heq hne
  | clockLoadBehind hp' _ hlt => cases hp.symm.trans hp'; omega
  | clockFatal hp' | clockRound hp' | clockRoundEmpty hp' | clockCreate hp' | clockLoad1 hp' | clockLoad1Fail hp' =>
    cases hp.symm.trans hp'

/-- … and when it is started with a name or key other than the log's (the lock checkpoint does not
    verify, or nothing is found under the foreign log ID). -/
theorem C06_start_refuses_misconfigured (s s' : Sys) (i : Nat) (r : FRes Ck)
    (hp : (s.insts i).phase = .loading .lockFetch) (hbad : (s.insts i).cfgBad = true)
    (h : step s (.lockFetch i r) = some s') :
    (match (s'.insts i).phase with | .loading .failing => True | _ => False) := by
  cases step_sound h with
  | lockFetchLoadFail => rw [setPhase_phase]; trivial
  | lockFetchLoad _ _ hcfg => rw [hbad] at hcfg; cases hcfg
  | lockFetchCreate hp' | lockFetchCreateFail hp' => cases hp.symm.trans hp'

/-- History stays append-only and fork-free under every interleaving (same theorem as C01, the
    quantifier of `Reachable` already includes any number of instances). -/
theorem C06_no_fork {s : Sys} (r : Reachable s) :
    s.lockHist.Pairwise (fun newer older => older.leaves <+: newer.leaves ∧ older.time < newer.time) ∧
    ∀ c ∈ s.pubHist, c ∈ s.lockHist :=
  ⟨chain_pairwise _ (inv_reachable r).chain, (inv_reachable r).pub⟩

example : ∃ s, Reachable s ∧ s.lockHist.length = 3 := by
  obtain ⟨s, hr, hl⟩ := Seq.Demo.demo_reachable
  exact ⟨s, hr, by rw [hl]; rfl⟩

/-! ### Known finding F3: publication order is not monotone with two live instances.
The model accepts the following run (instance 0 stalls after its compare-and-swap; instance 1 loads,
applies instance 0's staged bundle, sequences and publishes; instance 0 resumes and publishes its older
checkpoint). The publication history then reads c1 (newest), c2, c0: the public checkpoint went
from size 2 back to size 1. The same schedule is replayed on two real Log instances by
corpus/C06/seq-f3-publication-regress.json. The lock history remains a chain (`C06_no_fork`). -/

def f3c0 : Ck := ⟨[], 100⟩
def f3c1 : Ck := ⟨[⟨0, 0, 110⟩], 110⟩
def f3c2 : Ck := ⟨[⟨0, 0, 110⟩, ⟨1, 1, 120⟩], 120⟩
def f3b1 : List (TileId × Tree) := [(⟨.data,0,1⟩, f3c1.leaves), (⟨.names,0,1⟩, f3c1.leaves), (⟨.hash 0,0,1⟩, f3c1.leaves)]
def f3b2 : List (TileId × Tree) := [(⟨.data,0,2⟩, f3c2.leaves), (⟨.names,0,2⟩, f3c2.leaves), (⟨.hash 0,0,2⟩, f3c2.leaves)]

def f3 : List Ev := [
  .launchCreate 0, .lockFetch 0 .nf, .fetch 0 .ckpt .nf, .clock 0 100, .lockCreate 0 f3c0 .ok,
  .upload 0 .ckpt false (.ck f3c0) .ok, .upload 0 .roots false (.blob 0) .ok, .created 0,
  .launchLoad 0, .lockFetch 0 (.ok f3c0), .clock 0 101, .fetch 0 .ckpt (.ok (.ck f3c0)), .clock 0 101,
  .fetch 0 .roots (.ok (.blob 0)), .loaded 0 f3c0,
  .launchSubmit 0, .submitted 0 0 0 false [] .sequencer,
  .launchRound 0, .clock 0 110, .upload 0 (.staging f3c1.leaves) true (.bundle f3b1) .ok,
  .lockReplace 0 f3c0 f3c1 .ok,
  -- instance 0 stalls here; instance 1 starts and finds the lock ahead of the published checkpoint
  .launchLoad 1, .lockFetch 1 (.ok f3c1), .clock 1 111, .fetch 1 .ckpt (.ok (.ck f3c0)), .clock 1 111,
  .fetch 1 (.legacyStaging f3c1.leaves) .nf, .fetch 1 (.staging f3c1.leaves) (.ok (.bundle f3b1)),
  .upload 1 (.tile ⟨.data,0,1⟩) true (.slice f3c1.leaves) .ok,
  .upload 1 (.tile ⟨.names,0,1⟩) true (.slice f3c1.leaves) .ok,
  .upload 1 (.tile ⟨.hash 0,0,1⟩) true (.slice f3c1.leaves) .ok,
  .fetch 1 (.tile ⟨.hash 0,0,1⟩) (.ok (.slice f3c1.leaves)), .fetch 1 (.tile ⟨.data,0,1⟩) (.ok (.slice f3c1.leaves)),
  .fetch 1 .roots (.ok (.blob 0)), .loaded 1 f3c1,
  .launchSubmit 1, .submitted 1 1 1 false [] .sequencer,
  .launchRound 1, .clock 1 120, .upload 1 (.staging f3c2.leaves) true (.bundle f3b2) .ok,
  .lockReplace 1 f3c1 f3c2 .ok,
  .upload 1 (.tile ⟨.data,0,2⟩) true (.slice f3c2.leaves) .ok,
  .upload 1 (.tile ⟨.names,0,2⟩) true (.slice f3c2.leaves) .ok,
  .upload 1 (.tile ⟨.hash 0,0,2⟩) true (.slice f3c2.leaves) .ok,
  .upload 1 .ckpt false (.ck f3c2) .ok, .discard 1 (.staging f3c2.leaves) .ok, .ack 1 1 1 1 120, .roundEnd 1 .ok,
  -- instance 0 resumes: same-content immutable tiles are accepted, then its older checkpoint is published
  .upload 0 (.tile ⟨.data,0,1⟩) true (.slice f3c1.leaves) .ok,
  .upload 0 (.tile ⟨.names,0,1⟩) true (.slice f3c1.leaves) .ok,
  .upload 0 (.tile ⟨.hash 0,0,1⟩) true (.slice f3c1.leaves) .ok,
  .upload 0 .ckpt false (.ck f3c1) .ok]

/-- the unrestricted statement "publication order is monotone" is false of the model (and of the code) -/
theorem C06_pub_order_not_monotone_witness :
    ∃ s, run (init 0) f3 = some s ∧ s.pubHist = [f3c1, f3c2, f3c0] ∧ s.lockHist = [f3c2, f3c1, f3c0] := by
  refine ⟨_, rfl, rfl, rfl⟩

end C06
