import Proofs.Leaf
import Proofs.TorchwoodPath
/-!
# C10 — tile, leaf, extension and tile-path encodings are canonical bijections

The theorems are about the definitions of `Model/Codec.lean`, `Model/Tls.lean` and `Model/TilePath.lean`, the same
definitions `drv codec` executes against the real code and whose field schemas `Tie/C10.lean` compares with /repo's
source on every run. Every statement is for ALL byte strings / entries / indexes / tiles; nothing is bounded.
-/
namespace C10
open Codec TilePath

def fp (b : UInt8) : Bytes := List.replicate 32 b

def sampleX509 : LogEntry :=
  { certificate := [0x30, 0x03, 1, 2, 3], isPrecert := false, issuerKeyHash := zeros32, chainFingerprints := [fp 1, fp 2],
    preCertificate := [], leafIndex := 1099511627775, archival := false, timestamp := 9223372036854775807 }

def samplePrecert : LogEntry :=
  { certificate := [0x30, 0x00], isPrecert := true, issuerKeyHash := fp 7, chainFingerprints := [],
    preCertificate := [0x30, 0x01, 0xff], leafIndex := 0, archival := true, timestamp := 0 }

/-- `C10.leaf_roundtrip`: every entry within the documented limits (`WF`) is encoded without panic, appended after
whatever the tile already holds, and both readers give back exactly the entry and the bytes that followed it
(`ReadTileLeaf` only for entries that carry a leaf index). -/
theorem leaf_roundtrip (e : LogEntry) (t0 rest : Bytes) (wf : WF e) :
    ∃ body, appendTileLeaf t0 e = some (t0 ++ body) ∧
      readTileLeaf (body ++ rest) = .ok (e, rest) ∧
      (e.archival = false → readTileLeafStrict (body ++ rest) = .ok (e, rest)) := by
  obtain ⟨body, h1, h2⟩ := Codec.leaf_roundtrip e t0 rest wf
  exact ⟨body, h1, h2, fun ha => readTileLeafStrict_eq_ok.mpr ⟨h2, ha⟩⟩

example : WF sampleX509 ∧ WF samplePrecert := by decide
example : ∃ b, appendTileLeaf [9] sampleX509 = some ([9] ++ b) ∧ readTileLeafStrict (b ++ [7, 7]) = .ok (sampleX509, [7, 7]) :=
  let ⟨b, h1, _, h3⟩ := leaf_roundtrip sampleX509 [9] [7, 7] (by decide); ⟨b, h1, h3 rfl⟩
example : (appendTileLeaf [] samplePrecert).map List.length = some 57 := by decide

/-- `C10.encoder_domain`: the encoder panics exactly outside `Encodable` (sizes that do not fit their length prefix,
index outside 40 bits). The clause `issuerKeyHash.length = 32` of `Encodable` cannot fail in Go, where the field is a
`[32]byte` (tile.go): it is there because the model has a list. -/
theorem encoder_domain (t : Bytes) (e : LogEntry) : appendTileLeaf t e ≠ none ↔ Encodable e := by
  rw [Option.ne_none_iff_exists']
  simp only [appendTileLeaf_eq_some, tileLeaf_fits]
  constructor
  · rintro ⟨_, ext, hext, ⟨hc, _, hfl, hpre⟩, _⟩
    exact ⟨hc, hfl, hpre, (extensionsOf_isSome e).mp ⟨ext, hext⟩⟩
  · rintro ⟨hc, hfl, hpre, hidx⟩
    obtain ⟨ext, hext⟩ := (extensionsOf_isSome e).mpr hidx
    exact ⟨_, ext, hext, ⟨hc, extensionsOf_length hext, hfl, hpre⟩, rfl⟩

example : appendTileLeaf [] { sampleX509 with leafIndex := 1099511627776 } = none := by decide
example : ¬ Encodable { sampleX509 with chainFingerprints := List.replicate 2048 (fp 0) } := by
  intro h
  have h2 : (List.replicate 2048 (fp 0)).flatten.length < 65536 := h.2.1
  rw [flatten_length_32 _ (by intro f hf; rw [List.eq_of_mem_replicate hf]; rfl), List.length_replicate] at h2
  omega
example : Encodable { sampleX509 with chainFingerprints := List.replicate 2047 (fp 0) } := by
  refine ⟨by decide, ?_, by decide, by decide⟩
  show (List.replicate 2047 (fp 0)).flatten.length < 65536
  rw [flatten_length_32 _ (by intro f hf; rw [List.eq_of_mem_replicate hf]; rfl), List.length_replicate]
  omega

/-- `C10.leaf_canonical`: whenever `ReadTileLeafMaybeArchival` accepts a byte string, re-encoding the returned entry
gives back exactly the consumed prefix, and the entry is within the limits `WF`. -/
theorem leaf_canonical (bs : Bytes) (e : LogEntry) (rest : Bytes) (h : readTileLeaf bs = .ok (e, rest)) :
    ∃ pre, appendTileLeaf [] e = some pre ∧ pre ++ rest = bs ∧ WF e :=
  Codec.leaf_canonical bs e rest h

/-- the same for `ReadTileLeaf`, which additionally never returns an archival leaf -/
theorem leaf_canonical_strict (bs : Bytes) (e : LogEntry) (rest : Bytes) (h : readTileLeafStrict bs = .ok (e, rest)) :
    ∃ pre, appendTileLeaf [] e = some pre ∧ pre ++ rest = bs ∧ WF e ∧ e.archival = false := by
  obtain ⟨hr, ha⟩ := readTileLeafStrict_eq_ok.mp h
  obtain ⟨pre, h1, h2, h3⟩ := Codec.leaf_canonical bs e rest hr
  exact ⟨pre, h1, h2, h3, ha⟩

/-- `C10.decode_total`: on every byte string the decoder either reports an error or consumes a prefix that re-encodes
to the same bytes. That it does not panic is not in the statement: `readTileLeaf` is a total function over the schema
interpreter, which has no panic path. -/
theorem decode_total (bs : Bytes) :
    (∃ err, readTileLeaf bs = .error err) ∨
    (∃ e rest pre, readTileLeaf bs = .ok (e, rest) ∧ appendTileLeaf [] e = some pre ∧ pre ++ rest = bs ∧ WF e) := by
  cases h : readTileLeaf bs with
  | error err => exact Or.inl ⟨err, rfl⟩
  | ok p =>
    obtain ⟨e, rest⟩ := p
    obtain ⟨pre, h1, h2, h3⟩ := Codec.leaf_canonical bs e rest h
    exact Or.inr ⟨e, rest, pre, rfl, h1, h2, h3⟩

-- both outcomes occur; the strict extension parsing rejects a second extension, a wrong type, a 6-byte index
example : readTileLeaf [] = .error .header := by decide
example : readTileLeaf ([0x80, 0, 0, 0, 0, 0, 0, 0] ++ [0, 0] ++ [0, 0, 0] ++ [0, 0] ++ [0, 0]) = .error .header := by decide
example : readTileLeaf ([0, 0, 0, 0, 0, 0, 0, 1] ++ [0, 2]) = .error .unknownType := by decide
example : readTileLeaf ([0, 0, 0, 0, 0, 0, 0, 1] ++ [0, 0] ++ [0, 0, 0] ++ [0, 0] ++ [0, 0] ++ [5]) =
    .ok ({ certificate := [], isPrecert := false, issuerKeyHash := zeros32, chainFingerprints := [], preCertificate := [],
           leafIndex := 0, archival := true, timestamp := 1 }, [5]) := by decide
example : readTileLeaf ([0, 0, 0, 0, 0, 0, 0, 1] ++ [0, 0] ++ [0, 0, 0] ++ [0, 9, 0, 0, 6, 1, 2, 3, 4, 5, 6] ++ [0, 0]) =
    .error .extensions := by decide
example : readTileLeaf ([0, 0, 0, 0, 0, 0, 0, 1] ++ [0, 0] ++ [0, 0, 0] ++ [0, 8, 1, 0, 5, 1, 2, 3, 4, 5] ++ [0, 0]) =
    .error .extensions := by decide
example : readTileLeaf ([0, 0, 0, 0, 0, 0, 0, 1] ++ [0, 0] ++ [0, 0, 0] ++ [0, 9, 0, 0, 5, 1, 2, 3, 4, 5, 0] ++ [0, 0]) =
    .error .extensions := by decide
example : readTileLeaf ([0, 0, 0, 0, 0, 0, 0, 1] ++ [0, 0] ++ [0, 0, 0] ++ [0, 0] ++ [0, 1, 9]) = .error .fingerprints := by decide

/-- `C10.mtl_spec`: whenever `MerkleTreeLeaf()` returns (does not panic), its bytes are the RFC 6962 §3.4
`MerkleTreeLeaf` structure serialised by the independent TLS presentation-language encoder of `Model/Tls.lean`. -/
theorem mtl_spec (e : LogEntry) (bs : Bytes) (h : merkleTreeLeaf e = some bs) :
    bs = (MerkleTreeLeaf.ofEntry e).encode :=
  Codec.mtl_spec e bs h

/-- … and it does return on every entry within the limits. -/
theorem mtl_total (e : LogEntry) (wf : WF e) : ∃ bs, merkleTreeLeaf e = some bs :=
  Codec.mtl_total e wf

example : merkleTreeLeaf sampleX509 = some ((MerkleTreeLeaf.ofEntry sampleX509).encode) := by decide
example : (merkleTreeLeaf samplePrecert).map List.length = some 51 := by decide

/-- `C10.mtl_inj`: among entries within the limits `WF`, the Merkle leaf determines timestamp, entry type, certificate,
issuer key hash (precerts), whether the leaf is archival and the leaf index. (Hash collision-freeness then lifts this to
leaf hashes; used by C12.) -/
theorem mtl_inj (e e' : LogEntry) (wf : WF e) (wf' : WF e') (h : merkleTreeLeaf e = merkleTreeLeaf e') :
    covered e = covered e' :=
  Codec.mtl_inj e e' wf wf' h

example : merkleTreeLeaf sampleX509 ≠ merkleTreeLeaf { sampleX509 with leafIndex := 5 } := by decide
-- fields the Merkle leaf does NOT cover: the chain fingerprints and the pre-certificate
example : merkleTreeLeaf sampleX509 = merkleTreeLeaf { sampleX509 with chainFingerprints := [] } := by decide

/-- `C10.ext_roundtrip`: all 40-bit indexes round-trip … -/
theorem ext_roundtrip (i : Int) (h0 : 0 ≤ i) (h1 : i < 1099511627776) :
    ∃ bs, marshalExtensions i = some bs ∧ parseExtensions bs = .ok i := by
  refine ⟨_, marshalExtensions_eq h0 h1, ?_⟩
  have := parseExtensions_index i.toNat (by omega) []
  rw [List.append_nil] at this
  rw [this, Int.ofNat_eq_natCast, Int.toNat_of_nonneg h0]

/-- … and everything else is refused by the encoder. -/
theorem ext_refused (i : Int) (h : i < 0 ∨ 1099511627776 ≤ i) : marshalExtensions i = none :=
  marshalExtensions_none h

example : marshalExtensions 1099511627775 = some [0, 0, 5, 0xff, 0xff, 0xff, 0xff, 0xff] := by decide
example : parseExtensions [0, 0, 5, 0xff, 0xff, 0xff, 0xff, 0xff] = .ok 1099511627775 := by decide
example : marshalExtensions (-1) = none ∧ marshalExtensions 1099511627776 = none := by decide

/-- What the code does beyond the round trip (modelled as it is, not as the spec reads): `ParseExtensions` is NOT
canonical — it skips extensions of unknown type (as its doc comment says) and does not look at anything after the first
leaf_index extension. (The strict form is in `readTileLeaf`, see `leaf_canonical`.) -/
theorem ext_parser_lenient (n : Nat) (h : n < 1099511627776) (ty : UInt8) (hty : ty ≠ 0) (data junk : Bytes)
    (hlen : data.length < 65536) :
    parseExtensions (ty :: toBE 2 data.length ++ data ++ (0 :: 0 :: 5 :: toBE 5 n ++ junk)) = .ok (Int.ofNat n) := by
  rw [parseExtensions_skip ty data _ hty hlen, parseExtensions_index n h junk]

example : parseExtensions ([7, 0, 1, 9] ++ [0, 0, 5, 0, 0, 0, 0, 42] ++ [1, 2, 3]) = .ok 42 := by decide
example : parseExtensions [7, 0, 1, 9] = .error .missing := by decide
example : parseExtensions [0, 0, 4, 0, 0, 0, 42] = .error .leafIndex := by decide

/-- `C10.path_roundtrip`: every height-8 tile with level ≥ -2 (hash ≥ 0, data -1, names -2), 0 ≤ N < 2^63 and
1 ≤ W ≤ 256 has a path, and the parser gives the tile back. -/
theorem path_roundtrip (t : Tile) (h : TileDom t) : ∃ p, sunlightPath t = some p ∧ sunlightParse p = some t :=
  ⟨_, sunlightPath_eq t h.1, sunlightParse_eq_some.mpr ⟨sunlightPath_eq t h.1, h⟩⟩

/-- `C10.path_canonical`: every string the parser accepts is exactly the path of the tile it returns, and that tile
is in the domain: no second spelling of a tile is accepted (leading zeros, `+`, `.p/256`, overflowing N, …). -/
theorem path_canonical (p : Bytes) (t : Tile) (h : sunlightParse p = some t) : sunlightPath t = some p ∧ TileDom t :=
  sunlightParse_eq_some.mp h

/-- consequently the parser is injective -/
theorem path_parse_inj (p q : Bytes) (t : Tile) (hp : sunlightParse p = some t) (hq : sunlightParse q = some t) : p = q := by
  have h1 := (path_canonical p t hp).1
  have h2 := (path_canonical q t hq).1
  rw [h1] at h2
  exact Option.some.inj h2

example : TileDom { H := 8, L := -2, N := 1234067, W := 8 } := by decide
example : sunlightPath { H := 8, L := -2, N := 1234067, W := 8 } = some (ascii "tile/names/x001/x234/067.p/8") := by decide
example : sunlightParse (ascii "tile/data/x001/000") = some { H := 8, L := -1, N := 1000, W := 256 } := by decide
example : sunlightParse (ascii "tile/0/x001/x000") = none := by decide          -- last element must not carry `x`
example : sunlightParse (ascii "tile/0/000.p/256") = none := by decide          -- a full tile is never spelled partial
example : sunlightParse (ascii "tile/+0/000") = none := by decide
example : sunlightParse (ascii "tile/0/x009/x223/x372/x036/x854/x775/808") = none := by decide   -- N = 2^63 wraps
example : sunlightPath { H := 7, L := 0, N := 0, W := 128 } = none := by decide  -- the documented panic

end C10
